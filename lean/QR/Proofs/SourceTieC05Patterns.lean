import QR.Gen.Code
import QR.Model.Matrix
import QR.Proofs.SourceTieIndex
import QR.Proofs.Lists
/-
Translation validation (plugin `tools/t2_fragments/frag_d6.py`): `util.pattern_position`, and `QRCode.setup_position_probe_pattern`,
`setup_timing_pattern`, `setup_position_adjust_pattern` translated WHOLE (loops, `continue` tests, colour expressions, cell
coordinates; over an abstract matrix with `isSet m r c` = `self.modules[r][c] is not None` and `set m r c v` =
`self.modules[r][c] = v`) against `Model.setupProbe`, `Model.setupTiming`, `Model.setupAdjust`, for every size, matrix, position
and position list.  At the end: `Model.blank` as their composition (`CapstoneE2.blankSrc`, which the capstones of C05 are stated
with, and its bridge `blank_patterns_src`).
-/
namespace QR.SourceTieD6
open QR.Model QR.Gen.Code

theorem pattern_position_literals : lo_pattern_position_table = "PATTERN_POSITION_TABLE" ∧
    (∀ v : Int, lo_pattern_position_index v = v - 1) := ⟨rfl, fun _ => rfl⟩

/-- `pattern_position(version)` for `1 ≤ version`: `Model.patternPosition` is the translated lookup in the regenerated table.
    (For version 0 Python's index -1 wraps to the last row and the Model's truncated `0 - 1 = 0` reads the first: see
    `C05_source_pattern_position_zero`; unreachable through `QRCode`, whose setter validates the version.) -/
theorem patternPosition_src (version : Nat) (hv : 1 ≤ version) :
    patternPosition version =
      (match lo_pattern_position Gen.PATTERN_POSITION_TABLE (version : Int) with
       | some a => .ok a | none => .error .indexError) := by
  unfold patternPosition idx lo_pattern_position lo_pattern_position_index
  have h : ((version : Int) - 1) = ((version - 1 : Nat) : Int) := by omega
  rw [h, py_getitem_nat]
  cases Gen.PATTERN_POSITION_TABLE[version - 1]? <;> rfl

/-- `self.modules[r][c] is not None` on the Model's matrix (coordinates are non-negative where the source reads) -/
def isSetM (m : Mat) (r c : Int) : Bool := (m.get r.toNat c.toNat).isSome
/-- `self.modules[r][c] = v` on the Model's matrix -/
def setM (m : Mat) (r c : Int) (x : Bool) : Mat := m.set r.toNat c.toNat (some x)

theorem foldl_lo_range {β : Type} (a b : Int) (f : β → Int → β) (m : β) :
    (lo_range a b).foldl f m = (List.range (b - a).toNat).foldl (fun m (k : Nat) => f m (a + (k : Int))) m := by
  unfold lo_range
  rw [List.foldl_map]

/-- the guard of `Mat.setI` is the two `continue` tests of the source, rows first -/
theorem setI_eq (m : Mat) (n : Nat) (R C : Int) (x : Bool) :
    m.setI n R C x =
      if (decide (R ≤ -1) || decide ((n : Int) ≤ R)) then m
      else if (decide (C ≤ -1) || decide ((n : Int) ≤ C)) then m else setM m R C x := by
  unfold Mat.setI setM
  simp only [Bool.or_eq_true, decide_eq_true_eq]
  by_cases hR : R ≤ -1 ∨ (n : Int) ≤ R
  · rw [if_pos hR, if_pos (by omega)]
  · rw [if_neg hR]
    by_cases hC : C ≤ -1 ∨ (n : Int) ≤ C
    · rw [if_pos hC, if_pos (by omega)]
    · rw [if_neg hC, if_neg (by omega)]

theorem ite_setM (m : Mat) (R C : Int) (b : Bool) : (if b then setM m R C true else setM m R C false) = setM m R C b := by
  cases b <;> rfl

/-- **`setup_position_probe_pattern(row, col)`** -/
theorem setupProbe_src (n : Nat) (m : Mat) (row col : Nat) :
    setupProbe n m row col = lo_setup_position_probe_pattern isSetM setM (n : Int) (row : Int) (col : Int) m := by
  unfold setupProbe lo_setup_position_probe_pattern
  have e : ∀ k : Nat, Int.ofNat k - 1 = -1 + (k : Int) := by
    intro k
    rw [Int.ofNat_eq_natCast]
    omega
  -- the Model tests the row at every cell (`setI_eq`), the source once per row: `foldl_skip` takes the test out of the inner loop
  simp only [foldl_lo_range, show ((8 : Int) - (-1)).toNat = 9 from rfl, setI_eq, foldl_skip, ite_setM, e]
  apply foldl_congr
  intro m r' _
  split
  · rfl
  · apply foldl_congr
    intro m c' _
    split
    · rfl
    · refine congrArg (setM m _ _) ?_
      rw [Bool.eq_iff_iff]
      -- the colour test is the Model's formula, differently bracketed
      simp only [Bool.or_eq_true, Bool.and_eq_true, decide_eq_true_eq, and_assoc, or_assoc]

/-- **`setup_timing_pattern()`**: column 6 first (rows 8 .. n-9), then row 6, only cells still `None`, even index dark -/
theorem setupTiming_src (n : Nat) (m : Mat) :
    setupTiming n m = lo_setup_timing_pattern isSetM setM (n : Int) m := by
  unfold setupTiming lo_setup_timing_pattern
  have h : ((n : Int) - 8 - 8).toNat = n - 16 := by omega
  have t1 : ∀ k : Nat, (8 + (k : Int)).toNat = k + 8 := by
    intro k
    omega
  have t2 : ∀ k : Nat, decide ((8 + (k : Int)) % 2 = 0) = decide ((k + 8) % 2 = 0) := by
    intro k
    exact decide_eq_decide.mpr (by omega)
  simp only [foldl_lo_range, h, isSetM, setM, t1, t2, show (6 : Int).toNat = 6 from rfl]

theorem getitemD_map_nat (l : List Nat) (k : Nat) : lo_py_getitemD (l.map Int.ofNat) (0 + (k : Int)) = ((l.getD k 0 : Nat) : Int) := by
  unfold lo_py_getitemD
  rw [Int.zero_add, py_getitem_nat, List.getElem?_map, List.getD_eq_getElem?_getD]
  cases l[k]? <;> rfl

/-- `for i in range(len(pos)): x = pos[i]; ...` is the fold over the list -/
theorem foldl_index_map {β : Type} (l : List Nat) (f : β → Nat → β) (m : β) :
    l.foldl f m =
      (lo_range 0 (lo_py_len (l.map Int.ofNat))).foldl (fun m i => f m (lo_py_getitemD (l.map Int.ofNat) i).toNat) m := by
  rw [foldl_lo_range]
  have h : (lo_py_len (l.map Int.ofNat) - 0).toNat = l.length := by simp [lo_py_len]
  rw [h]
  simp only [getitemD_map_nat, Int.toNat_natCast]
  exact (foldl_getD_range l 0 f m).symm

theorem getitemD_nonneg (l : List Nat) (i : Int) : 0 ≤ lo_py_getitemD (l.map Int.ofNat) i := by
  unfold lo_py_getitemD
  cases h : lo_py_getitem (l.map Int.ofNat) i with
  | none => decide
  | some a =>
    obtain ⟨b, _, rfl⟩ := List.mem_map.mp (py_getitem_mem h)
    exact Int.natCast_nonneg b

theorem set_congr (m : Mat) {a a' b b' : Nat} {x x' : Bool} (ha : a = a') (hb : b = b') (hx : x = x') :
    m.set a b (some x) = m.set a' b' (some x') := by subst ha hb hx; rfl

/-- **`setup_position_adjust_pattern()`** (given `pos = util.pattern_position(self.version)`): both index loops, the
    `is not None` skip, the 5x5 loops over -2..2 and the colour expression -/
theorem setupAdjust_src (m : Mat) (pos : List Nat) :
    setupAdjust m pos = lo_setup_position_adjust_pattern isSetM setM (pos.map Int.ofNat) m := by
  unfold setupAdjust lo_setup_position_adjust_pattern
  simp only [foldl_index_map pos]
  apply foldl_congr
  intro m i _
  apply foldl_congr
  intro m j _
  have hi := getitemD_nonneg pos i
  have hj := getitemD_nonneg pos j
  generalize lo_py_getitemD (pos.map Int.ofNat) i = R at hi
  generalize lo_py_getitemD (pos.map Int.ofNat) j = C at hj
  have hu : (m.get R.toNat C.toNat).isSome = isSetM m R C := rfl
  rw [hu]
  by_cases hs : isSetM m R C = true
  · rw [if_pos hs, if_pos hs]
  · rw [if_neg hs, if_neg hs]
    unfold drawAlign
    simp only [foldl_lo_range, show ((3 : Int) - (-2)).toNat = 5 from rfl, ite_setM]
    apply foldl_congr
    intro m r' hr
    apply foldl_congr
    intro m c' hc
    simp only [List.mem_range] at hr hc
    unfold setM
    refine set_congr m (by omega) (by omega) ?_
    rw [Bool.eq_iff_iff]
    simp only [Bool.or_eq_true, Bool.and_eq_true, decide_eq_true_eq]
    omega

theorem adjust_literals : lo_adjust_positions_call = ("util.pattern_position", "self.version") := rfl

/-- the function patterns of a fresh symbol (cache miss in `QRCode.makeImpl`): empty matrix, the three translated
    `setup_position_probe_pattern` calls at the corners, the translated `setup_position_adjust_pattern` at the translated
    `pattern_position(version)`, the translated `setup_timing_pattern` (all three writers translated whole) -/
def _root_.QR.CapstoneE2.blankSrc (version : Nat) : R Mat :=
  match lo_pattern_position Gen.PATTERN_POSITION_TABLE (version : Int) with
  | none => .error .indexError
  | some pos =>
    let n := version * 4 + 17
    let P := fun (m : Mat) (row col : Nat) =>
      lo_setup_position_probe_pattern isSetM setM (n : Int) (row : Int) (col : Int) m
    .ok (lo_setup_timing_pattern isSetM setM (n : Int)
          (lo_setup_position_adjust_pattern isSetM setM (pos.map Int.ofNat)
            (P (P (P (Mat.empty n) 0 0) (n - 7) 0) 0 (n - 7))))

/-- **the blank of every version** (`makeImpl` on a cache miss) is the one assembled from the translated writers -/
theorem blank_patterns_src (version : Nat) (hv : 1 ≤ version) : blank version = QR.CapstoneE2.blankSrc version := by
  unfold blank QR.CapstoneE2.blankSrc
  rw [patternPosition_src version hv]
  cases lo_pattern_position Gen.PATTERN_POSITION_TABLE (version : Int) with
  | none => rfl
  | some pos =>
    simp only [bind, Except.bind, pure, Except.pure, setupProbe_src, setupAdjust_src, setupTiming_src]

end QR.SourceTieD6
