import QR.Gen.Code
import QR.Model.Svg
import QR.Proofs.SourceTieImage
/-
Translation validation for C13, the SVG factories (qrcode/image/svg.py, qrcode/image/styles/moduledrawers/svg.py, the SVG side of
qrcode/image/base.py) as translated from the Python AST into `QR.Gen.Code`.  The ties stand under `C13_source_*` in Props/C13;
here is what they are stated with (the `quantize` cascade of `units()`, the readers from attribute lists to the model's shapes,
the Python classes of the model's drawers) and the steps of the drawing loop up to one cell (`svgCell_src`).
The model keeps lengths exact as numerators over `2 * den` pixels (size ratio `num / den`); the translated metrics are
(numerator, divisor) pairs over `den` pixels.
-/
namespace QR.SourceTie
open QR.Model QR.Gen.Code

theorem isEye_eq (width row col : Nat) : is_eye width row col = isEye width row col := by
  unfold is_eye isEye
  simp [Bool.or_assoc]

end QR.SourceTie

namespace QR.SourceTieB
open QR.Model QR.Gen.Code

/-- Python's cascade `for d in (...): units = units.quantize(d, context)` under an Inexact trap, on a value `t / 10^k`:
    each step that is exact re-scales, the first inexact one raises and ends the loop (`except Inexact: pass`) -/
def cascade : Nat → Nat → List Nat → Nat × Nat
  | t, k, [] => (t, k)
  | t, k, d :: ds =>
    if k ≤ d then cascade (t * 10 ^ (d - k)) d ds
    else if t % 10 ^ (k - d) = 0 then cascade (t / 10 ^ (k - d)) d ds
    else (t, k)

/-- a Decimal with `k` decimals printed: all `k` decimals, no point when `k = 0` -/
def fmtScaled (t k : Nat) : String :=
  if k = 0 then toString t else toString (t / 10 ^ k) ++ "." ++ String.ofList (digitsK (t % 10 ^ k) k)

theorem cascade3 (t : Nat) :
    cascade t 3 [2, 1, 0] =
      if t % 10 = 0 then
        if t / 10 % 10 = 0 then
          if t / 10 / 10 % 10 = 0 then (t / 10 / 10 / 10, 0) else (t / 10 / 10, 1)
        else (t / 10, 2)
      else (t, 3) := by
  simp only [cascade, Nat.reduceLeDiff, Nat.reduceSub, Nat.reducePow, if_false]

def factoryName : SvgFactory → String
  | .fragment => "SvgFragmentImage" | .image => "SvgImage" | .fill => "SvgFillImage"
  | .path => "SvgPathImage" | .pathFill => "SvgPathFillImage"

theorem svg_viewbox_eq (p : Nat) : svg_viewbox_arg p = svg_dimension_arg p := rfl

/-- an element's attribute values / a path's variables, read into the model's shapes -/
def rectOf : List Nat → Option SvgShape
  | [x, y, w, h] => some (.rect x y w h)
  | _ => none
def circleOf : List Nat → Option SvgShape
  | [cx, cy, r] => some (.circle cx cy r)
  | _ => none
def pathSquareOf (v : List (String × Nat)) : Option SvgShape := do
  some (.pathSquare (← v.lookup "x0") (← v.lookup "y0") (← v.lookup "x1") (← v.lookup "y1"))
def pathCircleOf (v : List (String × Nat)) : Option SvgShape := do
  some (.pathCircle (← v.lookup "x0") (← v.lookup "yh") (← v.lookup "x1") (← v.lookup "h"))

end QR.SourceTieB

namespace QR.SourceTieD4
open QR.Model QR.Gen.Code QR.SourceTieB

/-- `BaseImageWithDrawer.drawrect_context(row, col, qr)`: exactly one call `drawer.drawrect(box, is_active)` where `drawer` is
    the eye drawer on the three eyes (`Model.isEye`) and the module drawer elsewhere, `box = Model.pixelBox row col`, and
    `is_active` is the neighbour context iff that drawer `needs_neighbors`, else `bool(qr.modules[row][col])` -/
theorem drawrectContext_src {D A S : Type} (border boxSize width : Nat) (ed md : D) (nn : D → Bool) (awn : Nat → Nat → A)
    (ofBool : Bool → A) (M : Mods) (drawrect : D → rd_Box → A → S → S) (row col : Nat) (im : S) :
    rd_drawrect_context border boxSize width ed md nn awn ofBool M drawrect row col im =
      let d := if isEye width row col then ed else md
      drawrect d (pixelBox border boxSize row col) (if nn d then awn row col else ofBool ((M.getD row []).getD col false)) im := by
  unfold rd_drawrect_context
  simp only [QR.SourceTie.isEye_eq]
  rfl

/-- the Python class of a model drawer -/
def drawerClass (isPath : Bool) : SvgDrawerKind → String
  | .square => if isPath then "SvgPathSquareDrawer" else "SvgSquareDrawer"
  | .circle => if isPath then "SvgPathCircleDrawer" else "SvgCircleDrawer"

/-- `needs_neighbors` of a model drawer, from the table generated from the class bodies -/
def needsNeighbors (isPath : Bool) (d : SvgDrawer) : Bool :=
  (rd_svg_drawer_needs_neighbors.lookup (drawerClass isPath d.kind)).getD true

/-- no SVG drawer asks for the neighbour context; the path drawers inherit `SvgPathQRModuleDrawer.drawrect`, the others
    `SvgQRModuleDrawer.drawrect` -/
theorem svgDrawer_classes_src (isPath : Bool) (d : SvgDrawer) :
    needsNeighbors isPath d = false ∧
    rd_svg_drawer_drawrect_class.lookup (drawerClass isPath d.kind)
      = some (if isPath then "SvgPathQRModuleDrawer" else "SvgQRModuleDrawer") := by
  unfold needsNeighbors
  cases isPath <;> cases d.kind <;> decide

theorem flags_svg (f : SvgFactory) : flagsOf (factoryName f) = (true, true, f.isPath) := by
  cases f <;> decide

/-- `SvgQRModuleDrawer.drawrect(box, is_active)`: inactive -> nothing; active -> `self.el(box)` appended to `self.img._img` -/
theorem svgDrawrect_src (el : rd_Box → rd_Element) (box : rd_Box) (a : Bool) (img : rd_SvgImg) :
    rd_svg_drawrect el id box a img = if a then { img with img := img.img ++ [el box] } else img := by
  unfold rd_svg_drawrect
  cases a <;> rfl

/-- `SvgPathQRModuleDrawer.drawrect(box, is_active)`: inactive -> nothing; active -> `self.subpath(box)` appended to
    `self.img._subpaths` -/
theorem svgPathDrawrect_src (sub : rd_Box → String) (box : rd_Box) (a : Bool) (img : rd_SvgImg) :
    rd_svg_path_drawrect sub id box a img = if a then { img with subpaths := img.subpaths ++ [sub box] } else img := by
  unfold rd_svg_path_drawrect
  cases a <;> rfl

/-- how the bridge reads a model drawer as the Python drawer object handed to `drawrect_context`: its `el` / `subpath` produce
    (any rendering of) the Model's shape for the pixel box; the drawer's class decides which `drawrect` runs -/
def svgDrawrect (isPath : Bool) (render : Nat × SvgShape → rd_Element) (renderP : Nat × SvgShape → String) (boxSize : Nat)
    (d : SvgDrawer) (box : rd_Box) (a : Bool) (img : rd_SvgImg) : rd_SvgImg :=
  if isPath then rd_svg_path_drawrect (fun box => renderP (2 * d.den, drawShape true d boxSize box.1.1 box.1.2)) id box a img
  else rd_svg_drawrect (fun box => render (2 * d.den, drawShape false d boxSize box.1.1 box.1.2)) id box a img

/-- append rendered shapes where the factory family collects them -/
def addAll (isPath : Bool) (render : Nat × SvgShape → rd_Element) (renderP : Nat × SvgShape → String)
    (img : rd_SvgImg) (xs : List (Nat × SvgShape)) : rd_SvgImg :=
  if isPath then { img with subpaths := img.subpaths ++ xs.map renderP } else { img with img := img.img ++ xs.map render }

theorem addAll_nil (isPath : Bool) (render) (renderP) (img : rd_SvgImg) : addAll isPath render renderP img [] = img := by
  cases img; cases isPath <;> simp [addAll]

theorem addAll_addAll (isPath : Bool) (render) (renderP) (img : rd_SvgImg) (xs ys : List (Nat × SvgShape)) :
    addAll isPath render renderP (addAll isPath render renderP img xs) ys = addAll isPath render renderP img (xs ++ ys) := by
  cases isPath <;> simp [addAll]

theorem foldl_addAll_singleton {β : Type} (isPath : Bool) (render) (renderP) (g : β → Nat × SvgShape) (l : List β)
    (img : rd_SvgImg) :
    l.foldl (fun img c => addAll isPath render renderP img [g c]) img = addAll isPath render renderP img (l.map g) := by
  induction l generalizing img with
  | nil => rw [List.foldl_nil, List.map_nil, addAll_nil]
  | cons a t ih => rw [List.foldl_cons, ih, addAll_addAll]; rfl

/-- one cell: the translated `drawrect_context` with the translated drawers appends the rendering of the Model's shape for that
    cell (eye drawer on the eyes) if the module is dark, and nothing otherwise -/
theorem svgCell_src (isPath : Bool) (render : Nat × SvgShape → rd_Element) (renderP : Nat × SvgShape → String)
    (md ed : SvgDrawer) (M : Mods) (width border boxSize : Nat) (awn : Nat → Nat → Bool) (r c : Nat) (img : rd_SvgImg) :
    rd_drawrect_context border boxSize width ed md (needsNeighbors isPath) awn id M (svgDrawrect isPath render renderP boxSize) r c img
      = if (M.getD r []).getD c false then
          addAll isPath render renderP img
            [(let d := if isEye width r c then ed else md
              (2 * d.den, drawShape isPath d boxSize ((c + border) * boxSize) ((r + border) * boxSize)))]
        else img := by
  rw [drawrectContext_src]
  simp only [(svgDrawer_classes_src isPath _).1, Bool.false_eq_true, if_false, id]
  unfold svgDrawrect addAll
  cases isPath
  · simp only [Bool.false_eq_true, if_false, svgDrawrect_src]; rfl
  · simp only [if_true, svgPathDrawrect_src]; rfl

end QR.SourceTieD4
