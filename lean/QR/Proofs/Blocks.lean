import QR.Proofs.Interleave
import QR.Proofs.RSDiv
import QR.Proofs.C02Tables
/-
C02 at ISO Table 9: the block theorem of `QR.Proofs.RSDiv` for the 13 EC lengths of the table, and per symbol `create_bytes`
(block split, EC codewords, interleaving) against the reader's de-interleaving and the ISO Reed-Solomon code, for all 160
(version, level) pairs.
-/
namespace QR.Proofs

theorem ecOfBlock_codeword (e : Nat) (he : e ∈ Props.eccLengths) (dc : List Nat) (hne : dc ≠ [])
    (hb : ∀ c ∈ dc, c < 256) :
    ∃ ec, Model.ecOfBlock dc e = .ok ec ∧ ec.length = e ∧ (∀ c ∈ ec, c < 256) ∧
      Spec.isCodeword e (dc ++ ec) = true := by
  refine ecOfBlock_codeword_of ?_ ?_ (Props.generator_ne_zero e he) hne hb
  · simp only [Props.eccLengths, List.mem_cons, List.not_mem_nil, or_false] at he
    omega
  · -- the look-up table holds the ISO generator, which `Polynomial.__init__` leaves as it is
    obtain ⟨gt, hgen, _⟩ := generator_eq_cons e
    simp [Model.rsPolyFor, Props.C02_genpoly e he, hgen, Model.polyMk, stripZ_cons_ne_zero]

/-- what is known of one block: non-empty data bytes `dc`, and `ec` their `e` error-correction bytes, completing a codeword -/
structure BlockOK (e : Nat) (dc ec : List Nat) : Prop where
  data_ne : dc ≠ []
  data_lt : ∀ x ∈ dc, x < 256
  ec_eq : Model.ecOfBlock dc e = .ok ec
  ec_length : ec.length = e
  ec_lt : ∀ c ∈ ec, c < 256
  codeword : Spec.isCodeword e (dc ++ ec) = true

/-- `create_bytes` on a Table 9 block list, for every data content: it succeeds with `totalCodewords` bytes, and the
    reader's view `blocksOf` of them is a list of (data, ec) pairs whose data parts are consecutive pieces of `buf` and
    each of which is a codeword.  `splitBlocks_spec` (writer) + `blocksOf_interleave` (reader) + `ecOfBlock_codeword` (block) +
    the sums of Table 9. -/
theorem createBytes_iso (v : Nat) (hv : v < 40) (l : Spec.Level) (buf : List Nat)
    (hlen : buf.length = Spec.dataCodewords (v + 1) l) (hbytes : ∀ x ∈ buf, x < 256) :
    ∃ cw, Model.createBytes buf (Spec.isoBlocks (v + 1) l) = .ok cw ∧
      cw.length = Spec.totalCodewords (v + 1) ∧ (∀ x ∈ cw, x < 256) ∧
      (Spec.blocksOf (v + 1) l cw).flatMap (·.data) = buf ∧
      ∀ b ∈ Spec.blocksOf (v + 1) l cw, b.data ≠ [] ∧ Model.ecOfBlock b.data (Spec.eccLen (v + 1) l) = .ok b.ec ∧
        b.ec.length = Spec.eccLen (v + 1) l ∧ Spec.isCodeword (Spec.eccLen (v + 1) l) (b.data ++ b.ec) = true := by
  obtain ⟨hsumd, hsumt, hmem, hblk⟩ := Props.isoBlocks_facts v hv l
  obtain ⟨bs, hsplit, hsl, hp⟩ := Interleave.splitBlocks_spec buf _ (BlockOK (Spec.eccLen (v + 1) l))
    (by rw [hlen, hsumd]) hbytes (by
      intro b hb dc hdc hx
      obtain ⟨h1, h3, _⟩ := hblk b hb
      have hne : dc ≠ [] := by
        intro h0
        rw [h0, List.length_nil] at hdc
        omega
      obtain ⟨ec, e1, e2, e3, e4⟩ := ecOfBlock_codeword _ hmem dc hne hx
      rw [h3]
      exact ⟨ec, e1, hne, hx, e1, e2, e3, e4⟩)
  obtain ⟨hd, hel⟩ := Interleave.splitBlocks_lengths hsplit
  have hB := Interleave.blocksOf_interleave _ _ bs hd hel
  refine ⟨Model.interleave (bs.map (·.1)) ++ Model.interleave (bs.map (·.2)),
    by simp only [Model.createBytes, hsplit, R.bind_ok, R.pure_eq], ?_, ?_, ?_, ?_⟩
  · have hd' : (bs.map (·.1)).map List.length = _ := List.map_map.trans hd
    have hel' : (bs.map (·.2)).map List.length = _ := List.map_map.trans hel
    rw [List.length_append, Interleave.interleave_length, Interleave.interleave_length, hd', hel']
    exact hsumt
  · intro x hx
    rcases List.mem_append.mp hx with hx | hx
    · obtain ⟨b, hbm, hxb⟩ := Interleave.mem_interleave hx
      obtain ⟨p, hp', rfl⟩ := List.mem_map.mp hbm
      exact (hp p hp').data_lt x hxb
    · obtain ⟨b, hbm, hxb⟩ := Interleave.mem_interleave hx
      obtain ⟨p, hp', rfl⟩ := List.mem_map.mp hbm
      exact (hp p hp').ec_lt x hxb
  · rw [hB, List.flatMap_map]
    exact (List.flatMap_def ..).trans ((congrArg List.flatten hsl).trans (Interleave.slices_flatten buf _ (by omega)))
  · intro b hb
    rw [hB] at hb
    obtain ⟨p, hp', rfl⟩ := List.mem_map.mp hb
    exact ⟨(hp p hp').data_ne, (hp p hp').ec_eq, (hp p hp').ec_length, (hp p hp').codeword⟩

end QR.Proofs
