import QR.Gen.Code
import QR.Model.Styled
import QR.Proofs.Styled
/-
Source tie for C14: qrcode/image/styles/colormasks.py.
The `cm_*` definitions of QR.Gen.Code are translated from the Python AST on every run (tools/t2_fragments/frag_c.py);
here the hand-written model QR/Model/Styled.lean is proved equal to them.

Number representation.  Model/Styled.lean: "Python's float arithmetic is replaced by rationals: on exact pixels the floats
are exactly 0.0 / 1.0."  The translation makes the same reading: every float operation is the exact operation on `Rat`.
-/
namespace QR.SourceTieT
open QR.Model QR.Gen

/-- the translator's reading of Python `int()` on a float is the Model's `truncInt` -/
theorem truncInt_src (q : Rat) : truncInt q = Code.cm_py_int q := rfl

/-- independent description of that reading: `int(q)` is the T-division (rounding toward zero) of numerator by denominator -/
theorem truncIntTdiv_src (q : Rat) : Code.cm_py_int q = q.num.tdiv q.den :=
  Proofs.Styled.truncInt_eq_tdiv q

/-- `extrap_num`: `None` when the two numbers coincide, else the quotient (the Model inlines this in `extrapColor`) -/
theorem extrapNum_src (n1 n2 v : Int) :
    Code.cm_extrap_num n1 n2 v = if n2 = n1 then none else some ((v - n1 : Int) / (n2 - n1 : Int) : Rat) := by
  unfold Code.cm_extrap_num
  by_cases h : n2 = n1 <;> simp [h]

private theorem zip3_fold_eq (acc : List Rat) (c1 c2 ci : Colour) :
    Code.cm_zip3_foldl Code.cm_extrap_color_step acc c1 c2 ci = acc ++ extrapColor c1 c2 ci := by
  fun_induction extrapColor c1 c2 ci generalizing acc with
  | case1 c1 t1 t2 ci ti ih =>
    rw [Code.cm_zip3_foldl, ih, Code.cm_extrap_color_step, extrapNum_src, if_pos rfl]
  | case2 c1 t1 c2 t2 ci ti hc ih =>
    rw [Code.cm_zip3_foldl, ih, Code.cm_extrap_color_step, extrapNum_src, if_neg hc, List.append_assoc]
    rfl
  | case3 c1 c2 ci hno => rw [Code.cm_zip3_foldl.eq_2 _ _ _ _ _ hno, List.append_nil]

/-- the list of coefficients collected by the loop of `extrap_color` is the Model's `extrapColor`, for all (also ragged)
    arguments: Python's `zip` and the Model's pattern match both stop at the shortest colour -/
theorem extrapColor_src (c1 c2 ci : Colour) :
    extrapColor c1 c2 ci = Code.cm_zip3_foldl Code.cm_extrap_color_step Code.cm_extrap_color_init c1 c2 ci := by
  rw [zip3_fold_eq]; rfl

/-- the result computation of `extrap_color` (`if not normed: return None` / `sum(normed) / len(normed)`) -/
theorem mean_src (l : List Rat) : mean l = Code.cm_extrap_color_result l := by
  unfold mean Code.cm_extrap_color_result
  rw [Rat.intCast_natCast]

/-- **`extrap_color` complete** -/
theorem extrapColorMean_src (c1 c2 ci : Colour) :
    mean (extrapColor c1 c2 ci) = Code.cm_extrap_color c1 c2 ci := by
  rw [mean_src, extrapColor_src]; rfl

/-- **`interp_color`**, for every `col2` that has a channel for every channel of `col1` (otherwise Python raises
    IndexError at `col2[i]`) -/
theorem interpColor_src (c1 c2 : Colour) (norm : Rat) (h : c1.length ≤ c2.length) :
    interpColor c1 c2 norm = Code.cm_interp_color c1 c2 norm := by
  rw [Proofs.Styled.interpColor_eq_zipWith, Code.cm_interp_color, Code.cm_range]
  refine List.ext_getElem ?_ fun i h1 h2 => ?_
  · rw [List.length_zipWith, Nat.min_eq_left h, List.length_map, List.length_range', Nat.sub_zero]
  · rw [List.length_zipWith] at h1
    rw [List.getElem_zipWith, List.getElem_map, List.getElem_range', Nat.zero_add, Nat.one_mul,
      getElem!_pos c1 i (by omega), getElem!_pos c2 i (by omega)]
    rfl

/-- **the loop body of `QRColorMask.apply_mask`**: it reads pixel (x, y) and writes, at (x, y), the Model's `applyMaskPixel`
    of what it read (`fg x y` stands for `self.get_fg_pixel(image, x, y)`; the hypothesis is the one of `interp_color`) -/
theorem applyMaskPixel_src (back paint : Colour) (fg : Nat → Nat → Colour) (image : Nat → Nat → Colour) (x y : Nat)
    (h : back.length ≤ (fg x y).length) :
    Code.cm_apply_mask_body back paint fg image x y
      = Code.cm_putpixel image (x, y) (applyMaskPixel back paint (fg x y) (image x y)) := by
  unfold Code.cm_apply_mask_body applyMaskPixel
  rw [extrapColorMean_src]
  simp only [Code.cm_getpixel, Code.cm_get_bg_pixel]
  cases hh : Code.cm_extrap_color back paint (image x y) with
  | none => rfl
  | some norm => simp only [interpColor_src back (fg x y) norm h]

private theorem inner_fold (G : Nat → Nat → Colour → Colour) (x n : Nat) (im : Nat → Nat → Colour) :
    ∀ a b, ((List.range' 0 n).foldl (fun image y => Code.cm_putpixel image (x, y) (G x y (image x y))) im) a b
      = if a = x ∧ b < n then G x b (im a b) else im a b := by
  induction n with
  | zero => intro a b; rw [List.range'_zero, List.foldl_nil, if_neg (by omega)]
  | succ n ih =>
    intro a b
    rw [List.range'_1_concat, List.foldl_append, List.foldl_cons, List.foldl_nil, Code.cm_putpixel, Nat.zero_add, ih, ih]
    by_cases h : a = x ∧ b = n
    · obtain ⟨rfl, rfl⟩ := h
      rw [if_pos ⟨rfl, rfl⟩, if_neg (by omega), if_pos (by omega)]
    · rw [if_neg h]
      by_cases h2 : a = x ∧ b < n
      · rw [if_pos h2, if_pos (by omega)]
      · rw [if_neg h2, if_neg (by omega)]

/-- the loop nest of `apply_mask` on an image seen as a function: `for x in range(w): for y in range(h): image.putpixel((x, y),
    G x y (image.getpixel((x, y))))` replaces every pixel inside `w × h` by `G` of its original value and touches no other -/
theorem putpixel_loops (G : Nat → Nat → Colour → Colour) (w h : Nat) (im : Nat → Nat → Colour) :
    ∀ a b, ((List.range' 0 w).foldl (fun image x =>
        (List.range' 0 h).foldl (fun image y => Code.cm_putpixel image (x, y) (G x y (image x y))) image) im) a b
      = if a < w ∧ b < h then G a b (im a b) else im a b := by
  induction w with
  | zero => intro a b; rw [List.range'_zero, List.foldl_nil, if_neg (by omega)]
  | succ w ih =>
    intro a b
    rw [List.range'_1_concat, List.foldl_append, List.foldl_cons, List.foldl_nil, Nat.zero_add, inner_fold, ih]
    by_cases h1 : a = w ∧ b < h
    · obtain ⟨rfl, h1⟩ := h1
      rw [if_pos ⟨rfl, h1⟩, if_neg (by omega), if_pos (by omega)]
    · rw [if_neg h1]
      by_cases h2 : a < w ∧ b < h
      · rw [if_pos h2, if_pos (by omega)]
      · rw [if_neg h2, if_neg (by omega)]

/-! ### the gradient masks' `get_fg_pixel`

The Model has no definitions for the four normalisation expressions: its theorems (`C14_fg_range`, `C14_gradient_dark`)
take the interpolation parameter `t` with the hypotheses `0 ≤ t`, `t ≤ 1`.  Proved here: the foreground pixel is the
Model's `interpColor` at the translated normalisation expression.  That the expression satisfies those hypotheses for
every pixel of a square image (`0 ≤ x, y < width`; `image.size[1]` is not used by the Python code) is
`C14_source_horizontalNorm_src` … `C14_source_radialNorm_src` in Props/C14, from the inequalities below. -/

theorem horizontalFg_src (back left right : Colour) (width height x y : Int) (hl : left.length ≤ right.length) :
    Code.cm_horizontal_fg back left right width height x y = interpColor left right ((x : Rat) / (width : Rat)) :=
  (interpColor_src left right _ hl).symm

theorem verticalFg_src (back top bottom : Colour) (width height x y : Int) (hl : top.length ≤ bottom.length) :
    Code.cm_vertical_fg back top bottom width height x y = interpColor top bottom ((y : Rat) / (width : Rat)) :=
  (interpColor_src top bottom _ hl).symm

theorem squareFg_src (back c e : Colour) (width height x y : Int) (hl : c.length ≤ e.length) :
    Code.cm_square_fg back c e width height x y = interpColor c e (Code.cm_square_norm width height x y) :=
  (interpColor_src c e _ hl).symm

theorem radialFg_src (back c e : Colour) (norm : Rat) (hl : c.length ≤ e.length) :
    Code.cm_radial_fg back c e norm = interpColor c e norm :=
  (interpColor_src c e _ hl).symm

/-- the square normalisation expression, written out -/
theorem squareNormValue_src (width height x y : Int) :
    Code.cm_square_norm width height x y
      = max (Code.cm_abs ((x : Rat) - (width : Rat) / 2)) (Code.cm_abs ((y : Rat) - (width : Rat) / 2))
          / ((width : Rat) / 2) := rfl

/-- the radial normalisation expression, in closed form: the square of q·√r is the squared distance to the centre
    (width/2, width/2) divided by the squared half diagonal `(√2·width/2)² = width²/2` -/
theorem radialNormValue_src (width height x y : Int) (hw : width ≠ 0) :
    (Code.cm_radial_norm_surd width height x y).1 * (Code.cm_radial_norm_surd width height x y).1
      * (Code.cm_radial_norm_surd width height x y).2
      = (((x : Rat) - (width : Rat) / 2) ^ 2 + ((y : Rat) - (width : Rat) / 2) ^ 2) / ((width : Rat) ^ 2 / 2) := by
  have hW : (width : Rat) ≠ 0 := by rw [Ne, Rat.intCast_eq_zero_iff]; exact hw
  unfold Code.cm_radial_norm_surd
  simp only
  generalize (width : Rat) = W at *
  generalize (x : Rat) = X at *
  generalize (y : Rat) = Y at *
  grind

/- the inequalities: order facts about `Rat` that core does not state (named as in Mathlib), then the bounds of a pixel
   coordinate and of its distance to the centre -/

theorem div_nonneg {a b : Rat} (ha : 0 ≤ a) (hb : 0 < b) : 0 ≤ a / b := by
  rw [Rat.div_def]; exact Rat.mul_nonneg ha (by have := Rat.inv_pos.mpr hb; grind)

theorem div_le_one {a b : Rat} (hb : 0 < b) (h : a ≤ b) : a / b ≤ 1 := by
  have hi : 0 < b⁻¹ := Rat.inv_pos.mpr hb
  -- `a ≤ b` times `b⁻¹`
  have h1 : b⁻¹ * a ≤ b⁻¹ * b := Rat.mul_le_mul_of_nonneg_left h (by grind)
  rwa [Rat.mul_comm b⁻¹ b, Rat.mul_inv_cancel b (by grind), Rat.mul_comm, ← Rat.div_def] at h1

theorem sq_nonneg (a : Rat) : 0 ≤ a ^ 2 := by
  by_cases h : 0 ≤ a
  · have := Rat.mul_nonneg h h; grind
  · have := Rat.mul_nonneg (a := -a) (b := -a) (by grind) (by grind); grind

theorem sq_le_sq' (X H : Rat) (h1 : -H ≤ X) (h2 : X ≤ H) : X ^ 2 ≤ H ^ 2 := by
  have := Rat.mul_nonneg (a := H - X) (b := H + X) (by grind) (by grind)
  grind

theorem cast_bounds (w x : Int) (h0 : 0 ≤ x) (h1 : x < w) :
    (0 : Rat) ≤ (x : Rat) ∧ (x : Rat) ≤ (w : Rat) ∧ (0 : Rat) < (w : Rat) :=
  ⟨Rat.intCast_nonneg.mpr h0, Rat.intCast_le_intCast.mpr (by omega), Rat.intCast_pos.mpr (by omega)⟩

theorem abs_half {w x : Rat} (h0 : 0 ≤ x) (h1 : x ≤ w) :
    0 ≤ Code.cm_abs (x - w / 2) ∧ Code.cm_abs (x - w / 2) ≤ w / 2 := by
  unfold Code.cm_abs
  split <;> constructor <;> grind

end QR.SourceTieT
