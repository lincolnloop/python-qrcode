import QR.Proofs.SourceTieC07
import QR.Proofs.CapstoneC05
import QR.Proofs.SourceTieC06Write
import QR.Proofs.SourceTieC09
import QR.Proofs.SourceTieC10
import QR.Proofs.SourceTieC08Rule3
import QR.Proofs.CachedCompile
import QR.Proofs.Symbol
import QR.Props.C06
/-
Helpers for the capstone theorems `Cxx_source_capstone_*` of QR/Props/C01.lean, C03.lean, C09.lean: the whole compile assembled
from translated parts.  `compileSrc` is `Model.compile` with its stages `best_fit`, `create_data`, `makeImpl`, `lost_point` as
PARAMETERS, so that every Model function left in a capstone is visible in its statement; the stages assembled from the
`QR.Gen.Code` fragments are defined here, in CapstoneC05 and at the end of SourceTieC02, C04, C06Write, C07.  Three instantiations
are proved equal to `Model.compile` (`compileSrc_eq_lostModel`, `compileSrc_eq`, `compileSrc_eq_refined`, each with fewer Model
callees left) through `compileSrc_congr`: the callees are compared only at versions ≥ 1, at the eight trial masks and on the
matrices `makeImpl` returns, which is where the bridges hold.
-/
namespace QR.CapstoneE4
open QR.Model QR.Gen.Code QR.SourceTieA QR.SourceTieT QR.SourceTieD1 QR.CapstoneE1 QR.CapstoneE2

/-- `util.create_data(version, error_correction, data_list)` assembled from source-assembled parts: the bit stream
    (`dataBitsSrc`: translated overflow test, terminator length, pad alternation, with the source-assembled `length_in_bits`
    and `rs_blocks`), then `rs_blocks` and `create_bytes` (`createBytesSrc`: translated main loop and interleaving loops).
    Parameters: `segs_bits` = the segment loop (headers and `QRData.write`), `ec` = the `current_ec` computation of one block.
    `packBytes` reads the bit list as `buffer.buffer`. -/
def createDataSrc (segs_bits : (Nat → R Nat) → List Seg → R (List Bool)) (ec : List Nat → Nat → R (List Nat))
    (version level : Nat) (segs : List Seg) : R (List Nat) := do
  let bits ← dataBitsSrc segs_bits lengthInBitsSrc rsBlocksSrc version level segs
  let blocks ← rsBlocksSrc version level
  createBytesSrc ec (packBytes bits) blocks

theorem createDataSrc_eq (v level : Nat) (segs : List Seg) (hv : 1 ≤ v) :
    createDataSrc segsBits (ecOfBlockSrc rsPolyFor polyMk polyMod) v level segs = createData v level segs := by
  unfold createDataSrc createData
  rw [QR.Props.C06_source_dataBitsSrc_eq v level segs hv, QR.Props.C02_source_rsBlocksSrc_eq v level hv]
  simp only [QR.Props.C02_source_createBytesSrc_eq]

/-- `QRCode.best_mask_pattern()` assembled from its translated fragments: `for i in range(mask_candidates)`, the trial symbol
    `self.makeImpl(True, i)` (`mask_trial_call`), its score, the translated update test `pick_update` of the running
    `(min_lost_point, pattern)`. Parameters: `makeImplF test mask` = `self.makeImpl(test, mask)` (returning `self.modules`),
    `lost` = `util.lost_point(self.modules)`. -/
def bestMaskSrc (makeImplF : Bool → Nat → R Mat) (lost : Mat → Nat) : R Nat := do
  let (_, pattern) ← (List.range mask_candidates).foldlM (fun (st : Nat × Nat) i => do
      let m ← makeImplF true i
      pure (if pick_update i st.1 (lost m) then (lost m, i) else st)) (0, 0)
  pure pattern

theorem bestMaskSrc_eq (v level : Nat) (data : List Nat) :
    bestMaskSrc (fun t i => makeImpl v level t i data) (fun m => lostPoint m.toBMat) = bestMaskPattern v level data := by
  unfold bestMaskSrc bestMaskPattern
  simp only [QR.SourceTie.pick_eq]
  rfl

/-- the loop only looks at `makeImplF true i`, `i < mask_candidates`, and at `lost` of the matrices these return -/
theorem bestMaskSrc_congr (f f' : Bool → Nat → R Mat) (lost lost' : Mat → Nat)
    (hf : ∀ i, i < mask_candidates → f true i = f' true i)
    (hl : ∀ i m, i < mask_candidates → f' true i = .ok m → lost m = lost' m) :
    bestMaskSrc f lost = bestMaskSrc f' lost' := by
  unfold bestMaskSrc
  congr 1
  generalize ((0, 0) : Nat × Nat) = st
  have hmem : ∀ i ∈ List.range mask_candidates, i < mask_candidates := fun i hi => List.mem_range.mp hi
  generalize List.range mask_candidates = is at hmem
  induction is generalizing st with
  | nil => rfl
  | cons i is ih =>
    simp only [List.foldlM_cons]
    rw [hf i (hmem i (List.mem_cons_self ..))]
    cases hm : f' true i with
    | error e => rfl
    | ok m =>
      simp only [R.bind_ok, hl i m (hmem i (List.mem_cons_self ..)) hm]
      exact ih _ (fun j hj => hmem j (List.mem_cons_of_mem _ hj))

/-- `util.lost_point(modules)` on the module matrix of a compiled symbol: the translated function (`len(modules)`, the four
    calls, their sum) over the four translated scanners (`level1Src`, `level2Src`, `l3f_level3`, the rule-4 value);
    `Mat.toBMat` reads `self.modules` as Booleans (no `None` is left in a compiled symbol) -/
def lostPointSrc (m : Mat) : Nat :=
  l3f_lost_point List.length level1Src level2Src (fun M n => l3f_level3 (lp_cell M) n)
    (fun M n => (lp4_result (lp4_dark_count M) n).toNat) m.toBMat

theorem lostPointSrc_eq (m : Mat) (n : Nat) (h : MatShape m n) : lostPointSrc m = lostPoint m.toBMat :=
  (QR.SourceTieD3.lostPoint_src m.toBMat fun row hrow =>
    ((Mat.toBMat_shape h).2 row hrow).trans (Mat.toBMat_shape h).1.symm).symm

/-- THE WHOLE COMPILE, cache-free, of a fresh object: `QRCode(version, error_correction, mask_pattern)`, `data_list = segs`,
    `make(fit)`; returns (version, mask used, `self.modules`).  Statement order and tests of `QRCode.make` as translated
    (`make_*`): reading `self.version` while `_version is None` runs `best_fit()` first (the `version` property); then
    `if fit or (self.version is None): self.best_fit(start=self.version)` (`make_fit_test`, `make_fit_start`; the second
    disjunct is `false` after the read); then `if self.mask_pattern is None` (`make_mask_test`):
    `self.makeImpl(False, self.best_mask_pattern())` (`make_none_test_arg`, `bestMaskSrc`), else
    `self.makeImpl(False, self.mask_pattern)` (`make_some_test_arg`, `make_some_mask_arg`).  As in `Model.compile`, the
    `data_cache` that the first `makeImpl` fills is computed once, before the mask is chosen, and the
    `precomputed_qr_blanks` cache is not modelled (every `makeImpl` is a cache miss).
    Parameters (the callees): `bestFitF start level segs` = `self.best_fit(start)` (0 = `None`),
    `createDataF version level segs` = `util.create_data`, `makeImplF version level test mask data` = `self.makeImpl(test, mask)`
    given the codewords, `lost` = `util.lost_point(self.modules)`. -/
def compileSrc (bestFitF : Nat → Nat → List Seg → R Nat) (createDataF : Nat → Nat → List Seg → R (List Nat))
    (makeImplF : Nat → Nat → Bool → Nat → List Nat → R Mat) (lost : Mat → Nat)
    (cfg : Cfg) (segs : List Seg) : R (Nat × Nat × Mat) := do
  let v0 ← (if cfg.version = 0 then bestFitF 0 cfg.level segs else pure cfg.version : R Nat)
  let v ← (if make_fit_test cfg.fit false then bestFitF (make_fit_start v0) cfg.level segs else pure v0 : R Nat)
  let data ← createDataF v cfg.level segs
  if make_mask_test cfg.mask.isNone then do
    let mask ← bestMaskSrc (fun t i => makeImplF v cfg.level t i data) lost
    let m ← makeImplF v cfg.level make_none_test_arg mask data
    pure (v, mask, m)
  else do
    let m ← makeImplF v cfg.level make_some_test_arg (make_some_mask_arg (cfg.mask.getD 0)) data
    pure (v, make_some_mask_arg (cfg.mask.getD 0), m)

theorem compileSrc_model (cfg : Cfg) (segs : List Seg) :
    compileSrc (bestFit 4) createData makeImpl (fun m => lostPoint m.toBMat) cfg segs = compile cfg segs := by
  rw [compile_eq, Proofs.chooseVersion_eq]
  unfold compileSrc
  simp only [make_fit_test, make_fit_start, make_mask_test, make_none_test_arg, make_some_test_arg, make_some_mask_arg,
    Bool.or_false, bestMaskSrc_eq, bind_assoc]
  cases cfg.mask <;> rfl

/-- `compileSrc` only depends on its callees at versions ≥ 1 (whatever `best_fit` returns and the configured version
    when there is one), at the eight trial masks, and at `lost` of the matrices `makeImpl` returns -/
theorem compileSrc_congr {bf bf' : Nat → Nat → List Seg → R Nat} {cd cd' : Nat → Nat → List Seg → R (List Nat)}
    {mi mi' : Nat → Nat → Bool → Nat → List Nat → R Mat} {lost lost' : Mat → Nat} (cfg : Cfg) (segs : List Seg)
    (hbf : ∀ start, bf start cfg.level segs = bf' start cfg.level segs)
    (hbf1 : ∀ start v, bf' start cfg.level segs = .ok v → 1 ≤ v)
    (hcd : ∀ v, 1 ≤ v → cd v cfg.level segs = cd' v cfg.level segs)
    (hmi : ∀ v t k data, 1 ≤ v → mi v cfg.level t k data = mi' v cfg.level t k data)
    (hlost : ∀ v k data m, 1 ≤ v → k < mask_candidates → mi' v cfg.level true k data = .ok m → lost m = lost' m) :
    compileSrc bf cd mi lost cfg segs = compileSrc bf' cd' mi' lost' cfg segs := by
  -- both version stages: what `best_fit` returns is ≥ 1, and so is the version that is kept when it is not called
  have pos : ∀ {c : Prop} [Decidable c] {start x v : Nat}, (¬ c → 1 ≤ x) →
      (if c then bf' start cfg.level segs else pure x : R Nat) = .ok v → 1 ≤ v := by
    intro c _ start x v hx h
    split at h
    · exact hbf1 start v h
    · exact Except.ok.inj h ▸ hx ‹_›
  unfold compileSrc
  simp only [hbf]
  cases hv0 : (if cfg.version = 0 then bf' 0 cfg.level segs else pure cfg.version : R Nat) with
  | error e => rfl
  | ok v0 =>
    have h0 : 1 ≤ v0 := pos Nat.pos_of_ne_zero hv0
    simp only [R.bind_ok]
    cases hv : (if make_fit_test cfg.fit false = true then bf' (make_fit_start v0) cfg.level segs else pure v0 : R Nat) with
    | error e => rfl
    | ok v =>
      have h1 : 1 ≤ v := pos (fun _ => h0) hv
      simp only [R.bind_ok]
      rw [hcd v h1]
      cases hd : cd' v cfg.level segs with
      | error e => rfl
      | ok data =>
        simp only [R.bind_ok]
        have hm : ∀ t k, mi v cfg.level t k data = mi' v cfg.level t k data := fun t k => hmi v t k data h1
        rw [bestMaskSrc_congr (fun t i => mi v cfg.level t i data) (fun t i => mi' v cfg.level t i data) lost lost'
          (fun i _ => hm true i) (fun i m hi hmk => hlost v i data m h1 hi hmk)]
        simp only [hm]

theorem makeImpl_shape {v level k : Nat} {t : Bool} {data : List Nat} {m : Mat} (h1 : 1 ≤ v) (hl : level < 4)
    (h : makeImpl v level t k data = .ok m) : MatShape m (Spec.size v) :=
  (QR.Sym.makeImpl_of_ok h1 hl h).shape

/-- what the layers below instantiate: any scoring function that agrees with the Model's `lost_point` on the trial symbols -/
theorem compileSrc_eq_of_lost (lost : Mat → Nat) (cfg : Cfg) (segs : List Seg)
    (hlost : ∀ v k data m, 1 ≤ v → k < mask_candidates → makeImpl v cfg.level true k data = .ok m →
      lost m = lostPoint m.toBMat) :
    compileSrc (bestFitSrc modeSizes (segsBitsSrc segWrite) Gen.BIT_LIMIT_TABLE bisectLeft checkVersion 4)
      (createDataSrc segsBits (ecOfBlockSrc rsPolyFor polyMk polyMod)) (makeImplSrc bchDigit) lost cfg segs
      = compile cfg segs := by
  rw [← compileSrc_model]
  exact compileSrc_congr cfg segs (fun start => bestFitSrc_eq 4 start cfg.level segs)
    (fun start v h => (bestFit_ok_range h).1) (fun v hv => createDataSrc_eq v cfg.level segs hv)
    (fun v t k data hv => makeImplSrc_eq v cfg.level t k data hv) hlost

/-- **the whole compile from translated parts = `Model.compile`** (layer 1: `lost_point` still the Model's), for EVERY
    configuration and segment list, no hypothesis -/
theorem compileSrc_eq_lostModel (cfg : Cfg) (segs : List Seg) :
    compileSrc (bestFitSrc modeSizes (segsBitsSrc segWrite) Gen.BIT_LIMIT_TABLE bisectLeft checkVersion 4)
      (createDataSrc segsBits (ecOfBlockSrc rsPolyFor polyMk polyMod)) (makeImplSrc bchDigit)
      (fun m => lostPoint m.toBMat) cfg segs = compile cfg segs :=
  compileSrc_eq_of_lost _ cfg segs (fun _ _ _ _ _ _ _ => rfl)

/-- **the whole compile from translated parts = `Model.compile`** (layer 2: `util.lost_point` and its four scanners
    translated as well), for every configuration whose level is one of the four indicators and every segment list -/
theorem compileSrc_eq (cfg : Cfg) (hl : cfg.level < 4) (segs : List Seg) :
    compileSrc (bestFitSrc modeSizes (segsBitsSrc segWrite) Gen.BIT_LIMIT_TABLE bisectLeft checkVersion 4)
      (createDataSrc segsBits (ecOfBlockSrc rsPolyFor polyMk polyMod)) (makeImplSrc bchDigit)
      lostPointSrc cfg segs = compile cfg segs :=
  compileSrc_eq_of_lost _ cfg segs (fun _ _ _ m hv _ h => lostPointSrc_eq m _ (makeImpl_shape hv hl h))

theorem compile_ok_version_pos {cfg : Cfg} {segs : List Seg} {v m : Nat} {M : Mat}
    (h : compile cfg segs = .ok (v, m, M)) : 1 ≤ v := by
  obtain ⟨_, hv', _⟩ := Proofs.compile_eq_ok.mp h
  exact chooseVersion_pos hv'

/-- `[get(i) for i in range(n)]` -/
def readBits (get : Nat → R Bool) : Nat → R (List Bool)
  | 0 => .ok []
  | n + 1 => readBits get n >>= fun l => get n >>= fun b => .ok (l ++ [b])

/-- the content of the Python object `(buffer.buffer, buffer.length)` as the translated `BitBuffer.__len__` / `BitBuffer.get`
    report it: `[buffer.get(i) for i in range(len(buffer))]` -/
def bufBits (o : List Nat × Nat) : R (List Bool) := readBits (bb_get Err.indexError o.1 o.2) (bb_len o.1 o.2)

theorem readBits_bbRep (bits : List Bool) : ∀ n, n ≤ bits.length →
    readBits (bb_get Err.indexError (bbRep bits).1 (bbRep bits).2) n = .ok (bits.take n)
  | 0, _ => by simp [readBits]
  | n + 1, h => by
    unfold readBits
    rw [readBits_bbRep bits n (by omega), R.bind_ok, QR.Props.C06_source_get_src Err.indexError bits n (by omega), R.bind_ok]
    rw [List.take_add_one, List.getElem?_eq_getElem (by omega)]
    rfl

theorem bufBits_bbRep (bits : List Bool) : bufBits (bbRep bits) = .ok bits := by
  unfold bufBits
  rw [QR.Props.C06_source_bbLen_src, readBits_bbRep bits bits.length (Nat.le_refl _), List.take_length]

/-- a computation run on the empty buffer that ends in the object representing its bits, read back, is the computation
    of the bits -/
theorem map_bbRep_bufBits (x : R (List Bool)) : ((x.map fun bits => bbRep ([] ++ bits)) >>= bufBits) = x := by
  cases x with
  | error e => rfl
  | ok bits => simp only [Except.map, R.bind_ok, List.nil_append, bufBits_bbRep]

/-- the segment loop of `util.create_data` run on the translated `BitBuffer()` (`CapstoneE2.segsLoopSrc`: translated
    `BitBuffer.put` over `put_bit`, translated `QRData.__len__` and `QRData.write`), its bits read back by the translated
    `__len__` / `get`; `find_bytes` = `ALPHA_NUM.find` on a one-character bytes object, `int(chars)` = `Model.intOfDigits` -/
def segsBitsBufSrc (find_bytes : List Nat → R Nat) (width : Nat → R Nat) (segs : List Seg) : R (List Bool) :=
  segsLoopSrc width find_bytes segs bb_init >>= bufBits

theorem segsBitsBufSrc_eq (find_bytes : List Nat → R Nat) (hfb : ∀ a, find_bytes [a] = alphaFind a) :
    segsBitsBufSrc find_bytes = segsBits := by
  funext width segs
  unfold segsBitsBufSrc
  rw [QR.Props.C06_source_bbInit_src, segsLoopSrc_eq width find_bytes hfb segs []]
  exact map_bbRep_bufBits _

/-- `data.write(buffer)` as `best_fit` uses it (the bits it appends): the translated `QRData.write` run on the translated
    `BitBuffer()`, bits read back by the translated `__len__` / `get`; `int(chars)` = `Model.intOfDigits` -/
def writeBufSrc (find_bytes : List Nat → R Nat) (s : Seg) : R (List Bool) :=
  qw_write Err.keyError Err.indexError Err.other intOfDigits find_bytes
      (fun self n l => bb_put (fun (st : List Nat × Nat) b => bb_put_bit Err.indexError st.1 st.2 b) self n l)
      s.mode s.data bb_init >>= bufBits

theorem writeBufSrc_eq (find_bytes : List Nat → R Nat) (hfb : ∀ a, find_bytes [a] = alphaFind a) :
    writeBufSrc find_bytes = segWrite := by
  funext s
  unfold writeBufSrc
  rw [QR.Props.C06_source_bbInit_src, segWrite_bytes_src find_bytes hfb s []]
  exact map_bbRep_bufBits _

/-- `util.mode_sizes_for_version(version)`: the translated class boundaries choose among the three dumped dictionaries -/
def modeSizesSrc (version : Nat) : List (Nat × Nat) :=
  match mode_size_class version with
  | 0 => Gen.MODE_SIZE_SMALL
  | 1 => Gen.MODE_SIZE_MEDIUM
  | _ => Gen.MODE_SIZE_LARGE

theorem modeSizesSrc_eq : modeSizesSrc = modeSizes := by
  funext v
  unfold modeSizesSrc modeSizes
  rw [QR.SourceTie.sizeClass_eq]
  rcases sizeClass v with _ | _ | n <;> rfl

/-- `util.check_version(version)` (also what the `version` setter runs): the translated test, ValueError when it holds -/
def checkVersionSrc (version : Int) : R Unit := if check_version_bad version then .error .valueError else .ok ()

theorem checkVersionSrc_eq : checkVersionSrc = checkVersion := by
  funext x
  exact (QR.SourceTie.checkVersion_eq x).symm

/-- `util.BCH_digit(data)`: translated initialisation, `while` condition, body and result; the loop is given `data`
    iterations (it needs `data.bit_length()`) -/
def bchDigitSrc (data : Nat) : Nat :=
  bch_digit_result (whileFuel digitCond digitStep data (bch_digit_init data)).1
    (whileFuel digitCond digitStep data (bch_digit_init data)).2

theorem bchDigitSrc_eq : bchDigitSrc = bchDigit := by
  funext d
  exact ((bchDigit_src d d Nat.lt_two_pow_self).1).symm

theorem createDataSrc_eq_refined (find_bytes : List Nat → R Nat) (hfb : ∀ a, find_bytes [a] = alphaFind a)
    (v level : Nat) (segs : List Seg) (hv : 1 ≤ v) :
    createDataSrc (segsBitsBufSrc find_bytes) (ecOfBlockSrc rsPolyFor polyMk polyMod) v level segs = createData v level segs := by
  rw [segsBitsBufSrc_eq find_bytes hfb]
  exact createDataSrc_eq v level segs hv

theorem makeImplSrc_eq_refined (v level : Nat) (test : Bool) (mask : Nat) (data : List Nat) (hv : 1 ≤ v) :
    makeImplSrc bchDigitSrc v level test mask data = makeImpl v level test mask data := by
  rw [bchDigitSrc_eq]
  exact makeImplSrc_eq v level test mask data hv

/-- `ALPHA_NUM.find(c)` for a one-character bytes object `c` (the only arguments `QRData.write` passes): the instance of the
    parameter `find_bytes` used in the evaluated examples -/
def findBytes1 : List Nat → R Nat
  | [a] => alphaFind a
  | _ => .error .other

/-- **the whole compile from translated parts = `Model.compile`** (layer 3: in addition the segment loop of `create_data` and the
    `data.write` of `best_fit` on the translated BitBuffer, `mode_sizes_for_version`, `check_version`, `BCH_digit` translated);
    Model callees left: `bisectLeft` (bisect.bisect_left), `rsPolyFor` / `polyMk` / `polyMod` (generator lookup,
    `Polynomial.__init__` / `__mod__`), `intOfDigits` (`int(chars)`), and `find_bytes` with its hypothesis.  Not parameters, but
    the Model's data primitives, in which the assemblies themselves are written: `bitsBE` for the bits a `BitBuffer.put` appends
    (the two header `put`s of `best_fit`'s loop, the pad bytes of `create_data`), `packBytes` for `buffer.buffer`, `dictGet` /
    `idx` for `d[k]` / `l[i]`, `Mat.get` / `Mat.set` / `Mat.empty` / `Mat.toBMat` for `self.modules` -/
theorem compileSrc_eq_refined (find_bytes : List Nat → R Nat) (hfb : ∀ a, find_bytes [a] = alphaFind a)
    (cfg : Cfg) (hl : cfg.level < 4) (segs : List Seg) :
    compileSrc (bestFitSrc modeSizesSrc (segsBitsSrc (writeBufSrc find_bytes)) Gen.BIT_LIMIT_TABLE bisectLeft checkVersionSrc 4)
      (createDataSrc (segsBitsBufSrc find_bytes) (ecOfBlockSrc rsPolyFor polyMk polyMod)) (makeImplSrc bchDigitSrc)
      lostPointSrc cfg segs = compile cfg segs := by
  rw [writeBufSrc_eq find_bytes hfb, segsBitsBufSrc_eq find_bytes hfb, modeSizesSrc_eq, checkVersionSrc_eq, bchDigitSrc_eq]
  exact compileSrc_eq cfg hl segs

/-- a translated `QRData` object read as a Model segment (inverse of `SourceTieD1.segQ`) -/
def qSeg (q : sg_QRData) : Seg := { mode := q.mode, data := q.data }

theorem map_qSeg_map_segQ (segs : List Seg) : (segs.map segQ).map qSeg = segs := by
  induction segs with
  | nil => rfl
  | cons s t ih => simp only [List.map_cons, ih]; rfl

/-- `qr.add_data(d, optimize=n)` for every `(d, n)` of `calls`, in order, on an object whose `data_list` is `dl`: the
    translated `QRCode.add_data` (`sg_add_data`, with `optimal_data_chunks`, `_optimal_split`, `QRData.__init__`, `optimal_mode`,
    `to_bytestring` translated below it); `py` = what is left to the interpreter (`SourceTieD1.pyModel F enc`: the `re` engine as
    `searchModel` / `matchModel`, `F d ≥ len(d)` iterations for each `while data:`); returns `self.data_list` -/
def addAllSrc (py : sg_Py Err) : List (List Nat × Nat) → List sg_QRData → R (List sg_QRData)
  | [], dl => .ok dl
  | p :: rest, dl => sg_add_data py dl (none : Option Unit) (.inr p.1) p.2 >>= fun r => addAllSrc py rest r.1

theorem addAllSrc_eq (F enc) (hF : ∀ d : List Nat, d.length ≤ F d) (calls : List (List Nat × Nat)) (dl : List sg_QRData) :
    addAllSrc (pyModel F enc) calls dl = .ok (dl ++ (calls.flatMap fun p => addData p.1 p.2).map segQ) := by
  induction calls generalizing dl with
  | nil => simp [addAllSrc]
  | cons p rest ih =>
    unfold addAllSrc
    rw [addData_src F enc hF dl none p.1 p.2, R.bind_ok, ih]
    simp only [List.flatMap_cons, List.map_append, List.append_assoc]

/-- `qr = QRCode(version, error_correction, mask_pattern)`; `qr.add_data(d, optimize=n)` for each call; `qr.make(fit)`:
    the translated `add_data` calls on the empty `data_list`, then `compileSrc` on the objects they leave -/
def compileCallsSrc (py : sg_Py Err) (bestFitF : Nat → Nat → List Seg → R Nat)
    (createDataF : Nat → Nat → List Seg → R (List Nat)) (makeImplF : Nat → Nat → Bool → Nat → List Nat → R Mat)
    (lost : Mat → Nat) (cfg : Cfg) (calls : List (List Nat × Nat)) : R (Nat × Nat × Mat) :=
  addAllSrc py calls [] >>= fun qs => compileSrc bestFitF createDataF makeImplF lost cfg (qs.map qSeg)

/-- whatever the stages: the translated `add_data` calls leave the segments of `Model.addData` -/
theorem compileCallsSrc_pyModel (F enc) (hF : ∀ d : List Nat, d.length ≤ F d) (bestFitF : Nat → Nat → List Seg → R Nat)
    (createDataF : Nat → Nat → List Seg → R (List Nat)) (makeImplF : Nat → Nat → Bool → Nat → List Nat → R Mat)
    (lost : Mat → Nat) (cfg : Cfg) (calls : List (List Nat × Nat)) :
    compileCallsSrc (pyModel F enc) bestFitF createDataF makeImplF lost cfg calls
      = compileSrc bestFitF createDataF makeImplF lost cfg (calls.flatMap fun p => addData p.1 p.2) := by
  unfold compileCallsSrc
  rw [addAllSrc_eq F enc hF, R.bind_ok, List.nil_append, map_qSeg_map_segQ]

theorem compileCallsSrc_eq (F enc) (hF : ∀ d : List Nat, d.length ≤ F d) (cfg : Cfg) (hl : cfg.level < 4)
    (calls : List (List Nat × Nat)) :
    compileCallsSrc (pyModel F enc) (bestFitSrc modeSizes (segsBitsSrc segWrite) Gen.BIT_LIMIT_TABLE bisectLeft checkVersion 4)
      (createDataSrc segsBits (ecOfBlockSrc rsPolyFor polyMk polyMod)) (makeImplSrc bchDigit) lostPointSrc cfg calls
      = compile cfg (calls.flatMap fun p => addData p.1 p.2) := by
  rw [compileCallsSrc_pyModel F enc hF, compileSrc_eq cfg hl]

theorem compileCallsSrc_eq_refined (F enc) (hF : ∀ d : List Nat, d.length ≤ F d)
    (find_bytes : List Nat → R Nat) (hfb : ∀ a, find_bytes [a] = alphaFind a) (cfg : Cfg) (hl : cfg.level < 4)
    (calls : List (List Nat × Nat)) :
    compileCallsSrc (pyModel F enc)
      (bestFitSrc modeSizesSrc (segsBitsSrc (writeBufSrc find_bytes)) Gen.BIT_LIMIT_TABLE bisectLeft checkVersionSrc 4)
      (createDataSrc (segsBitsBufSrc find_bytes) (ecOfBlockSrc rsPolyFor polyMk polyMod)) (makeImplSrc bchDigitSrc)
      lostPointSrc cfg calls
      = compile cfg (calls.flatMap fun p => addData p.1 p.2) := by
  rw [compileCallsSrc_pyModel F enc hF, compileSrc_eq_refined find_bytes hfb cfg hl]

end QR.CapstoneE4
