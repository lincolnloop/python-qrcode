import QR.Gen.Code
import QR.Model.QRObject
import QR.Proofs.SourceTieC06
/-
Translation validation for C07 (plugins `frag_a.py`, `frag_b.py`): the row of the `BIT_LIMIT_TABLE` comprehension assembled
from the translated pieces (what it evaluates to is stated in `QR/Props/C07.lean`), and `QRCode.best_fit` as it stands in the
source, statement by statement (`QR.Gen.Code.best_fit_*`), against the hand-written `Model.bestFit` (the bit accumulation
`Model.segsBits` and the stateful `Model.bestFitS`: `QR/Props/C07.lean`).  `start = None` is the model's `start = 0`.
At the end: `best_fit` and its accumulation loop assembled from the fragments as functions (`bestFitSrc`, `segsBitsSrc`), which the
capstones of C07 and the whole-compile capstones (CapstoneCompile.lean) are stated with.
-/
namespace QR.SourceTieA
open QR.Model QR.Gen.Code

/-- one row of the comprehension: `[0] + [8 * sum(map(_data_count, base.rs_blocks(version, error_correction)))
    for version in range(1, 41)]`, every piece taken from the translation -/
def bitLimitRow (ec : Nat) : R (List Nat) :=
  (List.range' bit_limit_version_range.1 (bit_limit_version_range.2 - bit_limit_version_range.1)).mapM (fun v =>
      rsBlocks v ec >>= fun bs => pure (bit_limit_entry ((bs.map fun b => data_count_proj b.1 b.2).sum)))
    >>= fun rest => pure (bit_limit_head ++ rest)

end QR.SourceTieA

namespace QR.SourceTieB
open QR.Model QR.Gen.Code

/-- the model's encoding of the optional `start` argument -/
def optStart (start : Nat) : Option Nat := if start = 0 then none else some start

theorem best_fit_start_opt (start : Nat) : best_fit_start (optStart start) = if start = 0 then 1 else start := by
  unfold optStart
  split <;> rfl

theorem segsBits_nil (width : Nat → R Nat) : segsBits width [] = .ok [] := rfl

/-- `best_fit(start)`: every statement of the source, in order -/
theorem bestFit_src (fuel start level : Nat) (segs : List Seg) :
    bestFit (fuel + 1) start level segs = (do
      let start := best_fit_start (optStart start)
      if check_version_bad (best_fit_check_arg start) then .error .valueError
      else do
        let sizes := modeSizes (best_fit_sizes_arg start)
        let buffer ← segsBits (fun m => dictGet sizes m) segs
        let row ← idx Gen.BIT_LIMIT_TABLE (best_fit_bisect_row level)
        let version := bisectLeft row (best_fit_bisect_x start buffer.length) (row.length + 1)
                          (best_fit_bisect_lo start buffer.length) row.length
        if best_fit_overflow version then .error .dataOverflow
        else do
          let stored := best_fit_store version
          checkVersion stored          -- the `version` setter
          if best_fit_refit mode_size_class start stored then bestFit fuel (best_fit_recurse_start stored) level segs
          else pure stored) := by
  rw [bestFit]
  -- the fragments unfold to the Model's expressions (`check_version_bad`, `mode_size_class`, `best_fit_start` by their bridges);
  -- what is left differs only in how the range test on the start is written
  simp only [best_fit_start_opt, QR.SourceTie.check_version_bad_eq, best_fit_check_arg, best_fit_sizes_arg,
    best_fit_bisect_row, best_fit_bisect_x, best_fit_bisect_lo, best_fit_overflow, best_fit_store, best_fit_refit,
    best_fit_recurse_start, QR.SourceTie.sizeClass_eq, checkVersion, decide_eq_true_eq, bind, Except.bind]
  generalize (if start = 0 then 1 else start) = st
  by_cases hv : ((st : Int) < 1 ∨ (st : Int) > 40) <;> simp only [hv, if_true, if_false]

end QR.SourceTieB

/-! ### `best_fit` and its accumulation loop as functions (for the capstones `C07_source_capstone_*`, Props/C07.lean)

`QR.Gen.Code` holds the translation of `QRCode.best_fit` statement by statement (`best_fit_*`), not as one function: the
bridge theorems `C07_source_bestFit_src` / `C07_source_segsBits_src` are unfolding equations whose right-hand sides still
mention the Model (the callees and the recursive call).  Here the same right-hand sides are turned into functions of their
own - `bestFitSrc`, `segsBitsSrc` - with every callee that is NOT translated there as an explicit parameter and the
recursive call going to the function itself, and these are proved equal to the Model, given the Model's callees. -/
namespace QR.CapstoneE1
open QR.Model QR.Gen.Code QR.SourceTieB

/-- the accumulation loop of `QRCode.best_fit`, `for data in self.data_list: buffer.put(data.mode, 4);
    buffer.put(len(data), mode_sizes[data.mode]); data.write(buffer)`, assembled from the translated fragments
    (`best_fit_put_mode`, `best_fit_put_len_key`, `best_fit_put_len`: value and width of both `put`s, the looked-up key);
    parameters: `write` = `data.write(buffer)` (the bits it appends), `width` = `mode_sizes[...]`.
    `bitsBE v w` is `BitBuffer.put(v, w)` (the bits it appends). -/
def segsBitsSrc (write : Seg → R (List Bool)) (width : Nat → R Nat) : List Seg → R (List Bool)
  | [] => .ok []
  | s :: rest => do
      let w ← width (best_fit_put_len_key s.mode s.data.length)
      let d ← write s
      let tl ← segsBitsSrc write width rest
      pure (bitsBE (best_fit_put_mode s.mode s.data.length).1 (best_fit_put_mode s.mode s.data.length).2
            ++ bitsBE (best_fit_put_len s.mode s.data.length w).1 (best_fit_put_len s.mode s.data.length w).2
            ++ d ++ tl)

/-- `QRCode.best_fit(start)` assembled from the translated fragments `best_fit_*`, `check_version_bad`, `mode_size_class`,
    every statement of the source in order (the right-hand side of `C07_source_bestFit_src` with the recursive call going
    to this function). Parameters, i.e. the callees not translated in this chain:
    `sizesFor` = `util.mode_sizes_for_version`, `accumulate` = the loop over `self.data_list` (see `segsBitsSrc`),
    `table` = `util.BIT_LIMIT_TABLE`, `bisect a x fuel lo hi` = `bisect.bisect_left(a, x, lo, hi)`,
    `setVersion` = the `version` property setter (its check). `start = 0` encodes `start=None` (`optStart`);
    `dictGet` / `idx` are Python's `d[k]` / `l[i]` (KeyError / IndexError); the first argument is recursion fuel
    (`.error .other` when exhausted, = RecursionError). -/
def bestFitSrc (sizesFor : Nat → List (Nat × Nat)) (accumulate : (Nat → R Nat) → List Seg → R (List Bool))
    (table : List (List Nat)) (bisect : List Nat → Nat → Nat → Nat → Nat → Nat) (setVersion : Int → R Unit) :
    Nat → Nat → Nat → List Seg → R Nat
  | 0, _, _, _ => .error .other
  | fuel + 1, start, level, segs => do
      let start := best_fit_start (optStart start)
      if check_version_bad (best_fit_check_arg start) then .error .valueError
      else do
        let sizes := sizesFor (best_fit_sizes_arg start)
        let buffer ← accumulate (fun m => dictGet sizes m) segs
        let row ← idx table (best_fit_bisect_row level)
        let version := bisect row (best_fit_bisect_x start buffer.length) (row.length + 1)
                          (best_fit_bisect_lo start buffer.length) row.length
        if best_fit_overflow version then .error .dataOverflow
        else do
          let stored := best_fit_store version
          setVersion stored
          if best_fit_refit mode_size_class start stored then
            bestFitSrc sizesFor accumulate table bisect setVersion fuel (best_fit_recurse_start stored) level segs
          else pure stored

/-- the assembled loop with `data.write` := `Model.segWrite` is `Model.segsBits` (each step by unfolding: `C07_source_segsBits_src`) -/
theorem segsBitsSrc_eq (width : Nat → R Nat) (segs : List Seg) :
    segsBitsSrc segWrite width segs = segsBits width segs := by
  induction segs with
  | nil => rfl
  | cons s rest ih =>
    rw [segsBitsSrc, ih]
    rfl

/-- the assembled `best_fit` with the Model's callees is `Model.bestFit` (by `bestFit_src`, each level of the recursion) -/
theorem bestFitSrc_eq (fuel start level : Nat) (segs : List Seg) :
    bestFitSrc modeSizes (segsBitsSrc segWrite) Gen.BIT_LIMIT_TABLE bisectLeft checkVersion fuel start level segs
      = bestFit fuel start level segs := by
  induction fuel generalizing start with
  | zero => rfl
  | succ fuel ih =>
    rw [bestFit_src, bestFitSrc]
    simp only [ih, segsBitsSrc_eq]

end QR.CapstoneE1
