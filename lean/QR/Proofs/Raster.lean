import QR.Proofs.Frame
import QR.Proofs.DarkCells
/-
Raster geometry (property C12): `pixelBox`, the pure-PNG rows (`pypngRows`) and the Pillow canvas (`pilRaster`)
all describe the square of `(n + 2*border) * box` pixels in which pixel (x, y) is dark iff module
`(y / box - border, x / box - border)` of the framed symbol is dark.  The PNG rows are `get_matrix()` with every module
repeated `box` times in both directions, so their pixels are read off C16.  For Pillow, `drawBox` is put in closed form
(`p || inBox b x y` at every pixel) and `Good s cv P` carries size and pattern of the canvas through the fold over the dark cells.
-/
namespace QR.Proofs.Raster
open QR.Model

/-- a closed box: both corners belong to it, as for `ImageDraw.rectangle` and `pixel_box` -/
def inBox (b : (Nat × Nat) × (Nat × Nat)) (x y : Nat) : Bool :=
  decide (b.1.1 ≤ x ∧ x ≤ b.2.1 ∧ b.1.2 ≤ y ∧ y ≤ b.2.2)

theorem inBox_pixelBox {border box row col x y : Nat} (hb : 1 ≤ box) :
    inBox (pixelBox border box row col) x y = true ↔ (x / box = col + border ∧ y / box = row + border) := by
  rw [inBox, decide_eq_true_iff, Nat.div_eq_iff hb, Nat.div_eq_iff hb, and_assoc]
  rfl

/-- the pure-PNG rows are `get_matrix()` with every module blown up to `box` x `box` pixels -/
theorem pypngRows_eq_scale (M : Mods) (n border box : Nat) (hlen : M.length = n) :
    pypngRows M n border box =
      (getMatrix M border).flatMap fun row =>
        List.replicate box (row.flatMap fun p => List.replicate box (if p then 0 else 1)) := by
  have hrow : ∀ row : List Bool,
      ((List.replicate border false ++ row ++ List.replicate border false).flatMap fun p =>
        List.replicate box (if p then 0 else 1)) =
      List.replicate (box * border) 1 ++ (row.flatMap fun p => List.replicate box (if p then 0 else 1)) ++
        List.replicate (box * border) 1 := fun row => by
    rw [List.flatMap_append, List.flatMap_append, flatMap_replicate_const, Nat.mul_comm border box]; rfl
  rw [Frame.getMatrix_eq_blocks, hlen, List.flatMap_append, List.flatMap_append, flatMap_replicate_const,
    flatMap_replicate_const, List.flatMap_map, Nat.mul_comm (n + border * 2) box]
  simp only [hrow]
  rfl

theorem scale_pixel (L : Mods) (k : Nat) (hk : 0 < k) (x y : Nat) :
    ((L.flatMap fun row => List.replicate k (row.flatMap fun p => List.replicate k (if p then 0 else 1))).getD y []).getD x 1
      = 0 ↔ (L.getD (y / k) []).getD (x / k) false = true := by
  rw [List.getD_eq_getElem?_getD (a := ([] : List Nat)),
    getElem?_flatMap_replicate (fun row : List Bool => row.flatMap fun p => List.replicate k (if p then 0 else 1 : Nat)) k hk,
    List.getD_eq_getElem?_getD (l := L)]
  cases L[y / k]? with
  | none => rw [Option.map_none, Option.getD_none, Option.getD_none, List.getD_nil, List.getD_nil]; decide
  | some row =>
    rw [Option.map_some, Option.getD_some, Option.getD_some, List.getD_eq_getElem?_getD,
      getElem?_flatMap_replicate (fun p : Bool => (if p then 0 else 1 : Nat)) k hk, List.getD_eq_getElem?_getD]
    cases row[x / k]? with
    | none => decide
    | some p => cases p <;> decide

theorem pypngRows_length (M : Mods) (n border box : Nat) (hlen : M.length = n) :
    (pypngRows M n border box).length = pixelSize n border box := by
  rw [pypngRows_eq_scale M n border box hlen, length_flatMap_replicate, Frame.getMatrix_length, hlen, pixelSize,
    Nat.mul_comm border 2]

theorem pypngRows_mem (M : Mods) (n border box : Nat) (hlen : M.length = n) (hrow : ∀ row ∈ M, row.length = n)
    (row : List Nat) (h : row ∈ pypngRows M n border box) :
    row.length = pixelSize n border box ∧ ∀ v ∈ row, v = 0 ∨ v = 1 := by
  rw [pypngRows_eq_scale M n border box hlen] at h
  obtain ⟨mr, hmr, h⟩ := List.mem_flatMap.1 h
  rw [List.eq_of_mem_replicate h]
  refine ⟨by rw [length_flatMap_replicate, Frame.getMatrix_row_length M n border hlen hrow mr hmr, pixelSize,
    Nat.mul_comm border 2], fun v hv => ?_⟩
  obtain ⟨p, _, hp⟩ := List.mem_flatMap.1 hv
  rw [List.eq_of_mem_replicate hp]
  cases p
  · exact Or.inr rfl
  · exact Or.inl rfl

/-- **C12 (pure PNG)** as a corollary of C16 -/
theorem pypngRows_pixel (M : Mods) (n border box : Nat) (hlen : M.length = n) (hrow : ∀ row ∈ M, row.length = n)
    (hb : 1 ≤ box) (x y : Nat) :
    ((pypngRows M n border box).getD y []).getD x 1 = 0 ↔ Spec.rasterDark M n border box x y = true := by
  rw [pypngRows_eq_scale M n border box hlen, scale_pixel _ box hb, Frame.getMatrix_getD M n border hlen hrow]; rfl

/-- one statement for both loops of `drawBox`: over the rows (`st` = `modify`) and over the pixels of a row (`st` = `setIfInBounds`) -/
theorem foldl_range_getElem? {α : Type} (f : α → α) (st : Array α → Nat → Array α)
    (hst : ∀ xs i j, (st xs i)[j]? = if i = j then (xs[j]?).map f else xs[j]?) (i0 w : Nat) (xs : Array α) (j : Nat) :
    ((List.range w).foldl (fun xs d => st xs (i0 + d)) xs)[j]? =
      if i0 ≤ j ∧ j < i0 + w then (xs[j]?).map f else xs[j]? := by
  induction w with
  | zero => rw [List.range_zero, List.foldl_nil, if_neg (by omega)]
  | succ w ih =>
    rw [List.range_succ, List.foldl_append, List.foldl_cons, List.foldl_nil, hst, ih]
    by_cases h : i0 + w = j
    · rw [if_pos h, if_neg (by omega), if_pos (by omega)]
    · rw [if_neg h]
      by_cases h2 : i0 ≤ j ∧ j < i0 + w
      · rw [if_pos h2, if_pos (by omega)]
      · rw [if_neg h2, if_neg (by omega)]

theorem getElem?_setIfInBounds' {α : Type} (xs : Array α) (i j : Nat) (a : α) :
    (xs.setIfInBounds i a)[j]? = if i = j then (xs[j]?).map (fun _ => a) else xs[j]? := by
  rw [Array.getElem?_setIfInBounds]
  by_cases h : i = j
  · subst h
    rw [if_pos rfl, if_pos rfl]
    by_cases h2 : i < xs.size
    · rw [if_pos h2, Array.getElem?_eq_getElem h2]; rfl
    · rw [if_neg h2, Array.getElem?_eq_none (by omega)]; rfl
  · rw [if_neg h, if_neg h]

/-- the inner loop of `Model.drawBox` -/
def fillRow (x0 w : Nat) (row : Array Bool) : Array Bool :=
  (List.range w).foldl (fun row dx => row.setIfInBounds (x0 + dx) true) row

theorem fillRow_getElem? (x0 w : Nat) (row : Array Bool) (x : Nat) :
    (fillRow x0 w row)[x]? = if x0 ≤ x ∧ x < x0 + w then (row[x]?).map (fun _ => true) else row[x]? :=
  foldl_range_getElem? (fun _ => true) (fun row i => row.setIfInBounds i true)
    (fun xs i j => getElem?_setIfInBounds' xs i j true) x0 w row x

theorem drawBox_eq (cv : Canvas) (x0 y0 x1 y1 : Nat) :
    drawBox cv ((x0, y0), (x1, y1)) =
      (List.range (y1 + 1 - y0)).foldl (fun cv dy => cv.modify (y0 + dy) (fillRow x0 (x1 + 1 - x0))) cv := rfl

theorem drawBox_getElem? (cv : Canvas) (x0 y0 x1 y1 y : Nat) :
    (drawBox cv ((x0, y0), (x1, y1)))[y]? =
      if y0 ≤ y ∧ y < y0 + (y1 + 1 - y0) then (cv[y]?).map (fillRow x0 (x1 + 1 - x0)) else cv[y]? := by
  rw [drawBox_eq]
  exact foldl_range_getElem? (fillRow x0 (x1 + 1 - x0)) (fun cv i => cv.modify i (fillRow x0 (x1 + 1 - x0)))
    (fun xs i j => Array.getElem?_modify) y0 (y1 + 1 - y0) cv y

/-- `ImageDraw.rectangle` in closed form (A-PIL): the closed box is ORed into the canvas, whatever the canvas's shape -/
theorem drawBox_eq_mapIdx (cv : Canvas) (b : (Nat × Nat) × (Nat × Nat)) :
    drawBox cv b = cv.mapIdx fun y row => row.mapIdx fun x p => p || inBox b x y := by
  obtain ⟨⟨x0, y0⟩, ⟨x1, y1⟩⟩ := b
  refine Array.ext_getElem? fun y => ?_
  rw [drawBox_getElem?, Array.getElem?_mapIdx]
  cases cv[y]? with
  | none => exact ite_self _
  | some row =>
    rw [Option.map_some, Option.map_some, ← apply_ite some]
    congr 1
    refine Array.ext_getElem? fun x => ?_
    rw [Array.getElem?_mapIdx, apply_ite (·[x]?), fillRow_getElem?]
    cases row[x]? with
    | none => simp only [Option.map_none, ite_self]
    | some p =>
      simp only [Option.map_some, inBox]
      by_cases hy : y0 ≤ y ∧ y < y0 + (y1 + 1 - y0)
      · by_cases hx : x0 ≤ x ∧ x < x0 + (x1 + 1 - x0)
        · rw [if_pos hy, if_pos hx, decide_eq_true (by omega), Bool.or_true]
        · rw [if_pos hy, if_neg hx, decide_eq_false (by omega), Bool.or_false]
      · rw [if_neg hy, decide_eq_false (by omega), Bool.or_false]

/-- `row` has exactly `s` pixels, pixel `x` being `Q x` -/
def RowGood (s : Nat) (row : Array Bool) (Q : Nat → Bool) : Prop :=
  ∀ x, (x < s → row[x]? = some (Q x)) ∧ (s ≤ x → row[x]? = none)

/-- `cv` has exactly `s` rows of `s` pixels, pixel `(x, y)` being `P x y` -/
def Good (s : Nat) (cv : Canvas) (P : Nat → Nat → Bool) : Prop :=
  ∀ y, (y < s → ∃ row, cv[y]? = some row ∧ RowGood s row (fun x => P x y)) ∧ (s ≤ y → cv[y]? = none)

theorem Good.congr {s : Nat} {cv : Canvas} {P P' : Nat → Nat → Bool} (h : Good s cv P)
    (hP : ∀ x y, P x y = P' x y) : Good s cv P' :=
  (funext fun x => funext (hP x) : P = P') ▸ h

theorem Good.mapIdx {s : Nat} {cv : Canvas} {P : Nat → Nat → Bool} (h : Good s cv P) (f : Nat → Nat → Bool → Bool) :
    Good s (cv.mapIdx fun y row => row.mapIdx fun x p => f x y p) (fun x y => f x y (P x y)) := by
  intro y
  rw [Array.getElem?_mapIdx]
  refine ⟨fun hy => ?_, fun hy => by rw [(h y).2 hy]; rfl⟩
  obtain ⟨row, hrow, hgood⟩ := (h y).1 hy
  refine ⟨_, by rw [hrow]; rfl, fun x => ?_⟩
  rw [Array.getElem?_mapIdx]
  exact ⟨fun hx => by rw [(hgood x).1 hx]; rfl, fun hx => by rw [(hgood x).2 hx]; rfl⟩

theorem Good.drawBox {s : Nat} {cv : Canvas} {P : Nat → Nat → Bool} (h : Good s cv P)
    (b : (Nat × Nat) × (Nat × Nat)) : Good s (drawBox cv b) (fun x y => P x y || inBox b x y) := by
  rw [drawBox_eq_mapIdx]
  exact h.mapIdx fun x y p => p || inBox b x y

theorem Good.foldl_drawBox {ι : Type} {s : Nat} {cv : Canvas} {P : Nat → Nat → Bool} (h : Good s cv P)
    (bx : ι → (Nat × Nat) × (Nat × Nat)) (l : List ι) :
    Good s (l.foldl (fun cv a => Model.drawBox cv (bx a)) cv) (fun x y => P x y || l.any (fun a => inBox (bx a) x y)) := by
  induction l generalizing cv P with
  | nil => exact h.congr (fun x y => by rw [List.any_nil, Bool.or_false])
  | cons a l ih =>
    rw [List.foldl_cons]
    exact (ih (h.drawBox (bx a))).congr (fun x y => by rw [List.any_cons, Bool.or_assoc])

theorem Good.init (s : Nat) : Good s (Array.replicate s (Array.replicate s false)) (fun _ _ => false) := by
  intro y
  rw [Array.getElem?_replicate]
  refine ⟨fun hy => ?_, fun hy => by rw [if_neg (by omega)]⟩
  rw [if_pos hy]
  refine ⟨_, rfl, fun x => ?_⟩
  rw [Array.getElem?_replicate]
  exact ⟨fun hx => by rw [if_pos hx], fun hx => by rw [if_neg (by omega)]⟩

theorem size_eq_of_getElem? {α : Type} {xs : Array α} {s : Nat} (h1 : ∀ i, i < s → xs[i]? ≠ none) (h2 : xs[s]? = none) :
    xs.size = s :=
  Nat.le_antisymm (Array.getElem?_eq_none_iff.1 h2)
    (Nat.le_of_not_lt fun hlt => h1 _ hlt (Array.getElem?_eq_none (Nat.le_refl _)))

theorem Good.size {s : Nat} {cv : Canvas} {P : Nat → Nat → Bool} (h : Good s cv P) : cv.size = s := by
  refine size_eq_of_getElem? (fun y hy e => ?_) ((h s).2 (Nat.le_refl s))
  obtain ⟨_, hr, -⟩ := (h y).1 hy
  rw [e] at hr
  cases hr

theorem RowGood.size {s : Nat} {row : Array Bool} {Q : Nat → Bool} (h : RowGood s row Q) : row.size = s := by
  refine size_eq_of_getElem? (fun x hx e => ?_) ((h s).2 (Nat.le_refl s))
  have hx' := (h x).1 hx
  rw [e] at hx'
  cases hx'

theorem Good.spec {s : Nat} {cv : Canvas} {P : Nat → Nat → Bool} (hg : Good s cv P) :
    cv.size = s ∧ (∀ row ∈ cv, row.size = s) ∧
    ∀ x y, x < s → y < s → (cv.getD y #[]).getD x false = P x y := by
  refine ⟨hg.size, ?_, ?_⟩
  · intro row hmem
    obtain ⟨y, hy, rfl⟩ := Array.mem_iff_getElem.1 hmem
    obtain ⟨row, hrow, hgood⟩ := (hg y).1 (hg.size ▸ hy)
    rw [Array.getElem?_eq_getElem hy] at hrow
    rw [Option.some.inj hrow]
    exact hgood.size
  · intro x y hx hy
    obtain ⟨row, hrow, hgood⟩ := (hg y).1 hy
    rw [Array.getD_eq_getD_getElem? (xs := cv), hrow, Option.getD_some,
      Array.getD_eq_getD_getElem?, (hgood x).1 hx, Option.getD_some]

theorem pilRaster_eq_foldl (M : Mods) (n border box : Nat) :
    pilRaster M n border box =
      (Spec.darkCells M n).foldl (fun cv rc => drawBox cv (pixelBox border box rc.1 rc.2))
        (Array.replicate (pixelSize n border box) (Array.replicate (pixelSize n border box) false)) :=
  (DarkCells.foldl_darkCells M n (fun cv rc => drawBox cv (pixelBox border box rc.1 rc.2)) _).symm

def pilPattern (M : Mods) (n border box : Nat) (x y : Nat) : Bool :=
  (Spec.darkCells M n).any fun rc => inBox (pixelBox border box rc.1 rc.2) x y

theorem pilRaster_good (M : Mods) (n border box : Nat) :
    Good (pixelSize n border box) (pilRaster M n border box) (pilPattern M n border box) := by
  rw [pilRaster_eq_foldl]
  exact ((Good.init _).foldl_drawBox (fun rc : Nat × Nat => pixelBox border box rc.1 rc.2) (Spec.darkCells M n)).congr
    fun x y => Bool.false_or _

theorem pilPattern_eq (M : Mods) (n border box : Nat) (hb : 1 ≤ box) (x y : Nat) :
    pilPattern M n border box x y = Spec.rasterDark M n border box x y := by
  rw [Bool.eq_iff_iff, Spec.rasterDark, Frame.framed_eq_true_iff, pilPattern, List.any_eq_true]
  constructor
  · rintro ⟨⟨r, c⟩, hmem, hin⟩
    obtain ⟨hr, hc, hm⟩ := (DarkCells.mem_darkCells M n r c).1 hmem
    obtain ⟨hx, hy⟩ := (inBox_pixelBox hb).1 hin
    rw [hx, hy, Nat.add_sub_cancel, Nat.add_sub_cancel]
    exact ⟨by omega, by omega, hm⟩
  · rintro ⟨hy, hx, hm⟩
    exact ⟨(y / box - border, x / box - border), (DarkCells.mem_darkCells ..).2 ⟨by omega, by omega, hm⟩,
      (inBox_pixelBox hb).2 ⟨by omega, by omega⟩⟩

end QR.Proofs.Raster
