import QR.Gen.Code
import QR.Model.Matrix
/-
Translation validation for C05: the hand-written Model is PROVED equal to the expressions tools/translate.py (T2) extracts from
the Python AST of the current source on every run (lean/QR/Gen/Code.lean).  One file per property (this one, SourceTieC06,
SourceTieC09, and the first part of SourceTieC13 and SourceTieC15, share the namespace `QR.SourceTie`), so that a fragment that
changed (or became untranslatable) breaks the obligations of the property it belongs to and of no other.  Here: the mask lambdas,
the skip tests of the finder writer, the timing pattern.
-/
namespace QR.SourceTie
open QR.Model QR.Gen.Code

/-- the eight lambdas of `util.mask_func` -/
theorem masks (i j : Nat) :
    mask_func_0 i j = maskFunc 0 i j ∧ mask_func_1 i j = maskFunc 1 i j ∧ mask_func_2 i j = maskFunc 2 i j ∧
    mask_func_3 i j = maskFunc 3 i j ∧ mask_func_4 i j = maskFunc 4 i j ∧ mask_func_5 i j = maskFunc 5 i j ∧
    mask_func_6 i j = maskFunc 6 i j ∧ mask_func_7 i j = maskFunc 7 i j :=
  ⟨rfl, rfl, rfl, rfl, rfl, rfl, rfl, rfl⟩

/-! ### the skip tests of the finder writer and the timing pattern as they stand in the source (the colour tests and loop ranges
    of the finder, alignment and timing patterns together: `C05_source_patterns`, Props/C05.lean) -/

/-- the skip tests of `setup_position_probe_pattern` are the guard of `Mat.setI` -/
theorem probe_skip_eq (n : Nat) (row col : Nat) (r c : Int) :
    (probe_skip_row n row r || probe_skip_col n col c) =
      decide ((row : Int) + r ≤ -1 ∨ (n : Int) ≤ (row : Int) + r ∨ (col : Int) + c ≤ -1 ∨ (n : Int) ≤ (col : Int) + c) := by
  unfold probe_skip_row probe_skip_col
  rw [Bool.eq_iff_iff]
  simp only [Bool.or_eq_true, decide_eq_true_eq]
  omega

/-- timing pattern: even index dark, indices 8 .. n-9, only cells still `None`, column 6 then row 6 -/
theorem timing_eq :
    (∀ i, timing_dark_0 i = decide (i % 2 = 0)) ∧ (∀ i, timing_dark_1 i = decide (i % 2 = 0)) ∧
    (∀ n, timing_range_0 n = (8, n - 8)) ∧ (∀ n, timing_range_1 n = (8, n - 8)) ∧
    timing_target_0 = "self.modules[r][6]" ∧ timing_target_1 = "self.modules[6][c]" ∧
    timing_skip_0 = "self.modules[r][6] is not None" ∧ timing_skip_1 = "self.modules[6][c] is not None" :=
  ⟨fun _ => rfl, fun _ => rfl, fun _ => rfl, fun _ => rfl, rfl, rfl, rfl, rfl⟩

end QR.SourceTie
