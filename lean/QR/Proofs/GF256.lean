import QR.Spec.GF
import QR.Model.GF
import QR.Proofs.Finite
/-
GF(256) as the specification multiplies it (`Spec.gfmul`, shift-and-xor) and as the model does (`gexp`, `glog`, tables).
The law of exponents `α^i · α^j = α^(i+j)` (`α = x`) needs no table: multiplying the first factor by `x` multiplies the
product by `x`, every round being xor-linear (`gfmulAux_xtime`), then induction on `i`.  The tables enter in one pass each:
`EXP_TABLE` is the orbit of 1 under multiplication by `x`, and `LOG_TABLE` read through `EXP_TABLE` gives the non-zero bytes
back; so every non-zero byte is the power of `α` that `LOG_TABLE` names (`gfpow_lg`), whence commutativity, associativity
(and, in `QR.Proofs.Distance`, inverses) and `gexp (glog a + glog b) = a·b`: the model's table arithmetic is the field product.
-/
namespace QR.Proofs
open QR.Spec

theorem xor_lt_256 {a b : Nat} (ha : a < 256) (hb : b < 256) : a ^^^ b < 256 :=
  Nat.xor_lt_two_pow (n := 8) ha hb

theorem xtime_lt {a : Nat} (h : a < 256) : xtime a < 256 := by
  unfold xtime
  split
  · exact xor_lt_256 (by omega) (by omega)
  · omega

theorem xtime_zero : xtime 0 = 0 := by decide

/-- on bytes `xtime` is a shift, reduced by `x^8 = x^4 + x^3 + x^2 + 1` when bit 7 falls out: both parts are xor-linear -/
theorem xtime_eq {a : Nat} (h : a < 256) : xtime a = (a <<< 1) % 2 ^ 8 ^^^ 29 * (a >>> 7) := by
  rw [Nat.shiftLeft_eq, Nat.shiftRight_eq_div_pow]
  unfold xtime
  split
  · rw [show a / 2 ^ 7 = 1 by omega, show a * 2 ^ 1 % 2 ^ 8 = 2 * a - 256 by omega]
  · rw [show a / 2 ^ 7 = 0 by omega, show a * 2 ^ 1 % 2 ^ 8 = 2 * a by omega, Nat.mul_zero, Nat.xor_zero]

theorem xtime_xor {a b : Nat} (ha : a < 256) (hb : b < 256) : xtime (a ^^^ b) = xtime a ^^^ xtime b := by
  -- the reduction term `29 · bit 7` is linear in the bit
  have h29 : ∀ x, x < 2 → ∀ y, y < 2 → 29 * (x ^^^ y) = 29 * x ^^^ 29 * y := by decide
  have hbit : ∀ {c : Nat}, c < 256 → c >>> 7 < 2 := fun h => by rw [Nat.shiftRight_eq_div_pow]; omega
  rw [xtime_eq (xor_lt_256 ha hb), xtime_eq ha, xtime_eq hb, Nat.shiftLeft_xor_distrib, Nat.shiftRight_xor_distrib,
    Nat.xor_mod_two_pow, h29 _ (hbit ha) _ (hbit hb)]
  ac_rfl

theorem gfmulAux_lt (n : Nat) {a : Nat} (b : Nat) (h : a < 256) : gfmulAux n a b < 256 := by
  induction n generalizing a b with
  | zero => simp [gfmulAux]
  | succ n ih =>
    simp only [gfmulAux]
    refine xor_lt_256 ?_ (ih _ (xtime_lt h))
    split <;> omega

theorem gfmul_lt {a : Nat} (b : Nat) (h : a < 256) : gfmul a b < 256 := gfmulAux_lt 8 b h

theorem gfpow_lt (a n : Nat) : gfpow a n < 256 := by
  induction n with
  | zero => simp [gfpow]
  | succ n ih => exact gfmul_lt _ ih

theorem gfmulAux_zero_left (n b : Nat) : gfmulAux n 0 b = 0 := by
  induction n generalizing b with
  | zero => simp [gfmulAux]
  | succ n ih => simp [gfmulAux, xtime_zero, ih]

@[simp] theorem gfmul_zero_left (b : Nat) : gfmul 0 b = 0 := gfmulAux_zero_left 8 b

@[simp] theorem gfmul_one (a : Nat) : gfmul a 1 = a := by
  simp [gfmul, gfmulAux]

theorem gfmul_alpha (a : Nat) : gfmul a alpha = xtime a := by
  simp [gfmul, gfmulAux, alpha]

theorem ite_xor_mod_two (a b c : Nat) :
    (if (b ^^^ c) % 2 = 1 then a else 0) = (if b % 2 = 1 then a else 0) ^^^ (if c % 2 = 1 then a else 0) := by
  by_cases hb : b % 2 = 1 <;> by_cases hc : c % 2 = 1 <;> simp [Nat.xor_mod_two_eq_one, hb, hc]

/-- in every round both the selected summand and the rest (`b / 2`) are xor-linear in `b` -/
theorem gfmulAux_xor_right (n a b c : Nat) :
    gfmulAux n a (b ^^^ c) = gfmulAux n a b ^^^ gfmulAux n a c := by
  induction n generalizing a b c with
  | zero => simp [gfmulAux]
  | succ n ih =>
    rw [gfmulAux, gfmulAux, gfmulAux, Nat.xor_div_two, ih, ite_xor_mod_two]
    ac_rfl

theorem gfmul_xor_right (a b c : Nat) : gfmul a (b ^^^ c) = gfmul a b ^^^ gfmul a c :=
  gfmulAux_xor_right 8 a b c

@[simp] theorem gfmul_zero (a : Nat) : gfmul a 0 = 0 := by
  have := gfmul_xor_right a 0 0
  rwa [Nat.xor_self, Nat.xor_self] at this

theorem gfmulAux_xtime (n : Nat) {a : Nat} (b : Nat) (h : a < 256) :
    gfmulAux n (xtime a) b = xtime (gfmulAux n a b) := by
  induction n generalizing a b with
  | zero => simp [gfmulAux, xtime_zero]
  | succ n ih =>
    have hs : (if b % 2 = 1 then a else 0) < 256 := by split <;> omega
    rw [gfmulAux, gfmulAux, xtime_xor hs (gfmulAux_lt n _ (xtime_lt h)), ih _ (xtime_lt h)]
    split <;> simp [xtime_zero]

/-- `1·b = b`: the eight rounds add up the bits of `b`.  Checked on the 256 bytes: the argument (`gfmulAux n (2^k) b` is
    `2^k · (b mod 2^n)` while `k + n ≤ 8`, xor of disjoint bits being their sum) is longer than this fact about one byte
    deserves, and it is the only place where the law of exponents below looks at all bytes -/
theorem gfmul_one_left {b : Nat} (h : b < 256) : gfmul 1 b = b := by
  have := forall_lt_of_all (n := 256) (p := fun b => gfmul 1 b == b) (by decide +kernel) b h
  simpa using this

theorem gfpow_alpha_succ (k : Nat) : gfpow alpha (k + 1) = xtime (gfpow alpha k) := gfmul_alpha _

theorem gfpow_alpha_add (i j : Nat) : gfmul (gfpow alpha i) (gfpow alpha j) = gfpow alpha (i + j) := by
  induction i with
  | zero => rw [gfpow, gfmul_one_left (gfpow_lt _ j), Nat.zero_add]
  | succ i ih =>
    rw [gfpow_alpha_succ, gfmul, gfmulAux_xtime 8 _ (gfpow_lt _ i), ← gfmul, ih, ← gfpow_alpha_succ]
    congr 1
    omega

theorem gfpow_alpha_255 : gfpow alpha 255 = 1 := by decide +kernel

theorem gfpow_alpha_add_255 (k : Nat) : gfpow alpha (k + 255) = gfpow alpha k := by
  rw [← gfpow_alpha_add, gfpow_alpha_255, gfmul_one]

theorem gfpow_alpha_mod (k : Nat) : gfpow alpha (k % 255) = gfpow alpha k := by
  have h : ∀ q r, gfpow alpha (r + 255 * q) = gfpow alpha r := by
    intro q r
    induction q with
    | zero => rfl
    | succ q ih => rw [Nat.mul_succ, ← Nat.add_assoc, gfpow_alpha_add_255, ih]
  rw [← h (k / 255), Nat.mod_add_div]

theorem gfpow_alpha_ne_one {m : Nat} (h0 : 0 < m) (h : m < 255) : gfpow alpha m ≠ 1 := by
  have hall : (orbit xtime 254 alpha).all (· != 1) = true := by decide +kernel
  have hm := getElem?_orbit (g := fun k => gfpow alpha (k + 1)) (fun k => gfpow_alpha_succ (k + 1))
    (show m - 1 < 254 by omega)
  have := List.all_eq_true.mp hall _ (List.mem_of_getElem? hm)
  rw [show m - 1 + 1 = m by omega] at this
  simpa using this

theorem gfpow_alpha_inj {i j : Nat} (hi : i < 255) (hj : j < 255) (h : gfpow alpha i = gfpow alpha j) : i = j := by
  -- multiply `α^i = α^j`, `i < j`, by `α^(255 - i)`: `1 = α^(j - i)`
  have key : ∀ {i j}, i < j → j < 255 → gfpow alpha i ≠ gfpow alpha j := by
    intro i j hij hj h
    have := congrArg (gfmul (gfpow alpha (255 - i))) h
    rw [gfpow_alpha_add, gfpow_alpha_add, show 255 - i + i = 255 by omega, gfpow_alpha_255,
      show 255 - i + j = j - i + 255 by omega, gfpow_alpha_add_255] at this
    exact gfpow_alpha_ne_one (by omega) (by omega) this.symm
  rcases Nat.lt_trichotomy i j with h' | h' | h'
  · exact absurd h (key h' hj)
  · exact h'
  · exact absurd h.symm (key h' hi)

theorem exp_table_orbit : Gen.EXP_TABLE = orbit xtime 256 1 := by decide +kernel

/-- `EXP_TABLE[i] = α^i` in GF(2)[x]/(x^8+x^4+x^3+x^2+1) for the 255 exponents `gexp` can reach -/
theorem _root_.QR.Props.C02_field_exp : ∀ i, i < 255 → Gen.EXP_TABLE[i]? = some (gfpow alpha i) := by
  intro i hi
  rw [exp_table_orbit]
  exact getElem?_orbit (g := gfpow alpha) gfpow_alpha_succ (by omega)

/-- read through `LOG_TABLE` and then `EXP_TABLE`, the non-zero bytes come back in order (0 stands for a logarithm out of
    range); as one list equation this costs a third of the 255 separate look-ups with `bind` -/
theorem log_exp_table :
    (Gen.LOG_TABLE.tail.map fun k => if k < 255 then Gen.EXP_TABLE.getD k 0 else 0) = List.range' 1 255 := by
  decide +kernel

def lg (a : Nat) : Nat := Gen.LOG_TABLE.getD a 0

theorem log_length : Gen.LOG_TABLE.length = 256 := by decide +kernel

theorem log_getElem? {a : Nat} (h : a < 256) : Gen.LOG_TABLE[a]? = some (lg a) := by
  have : a < Gen.LOG_TABLE.length := by rw [log_length]; exact h
  simp [lg, List.getD_eq_getElem?_getD, List.getElem?_eq_getElem this]

theorem lg_one : lg 1 = 0 := by decide

theorem gfpow_lg {a : Nat} (h1 : 1 ≤ a) (h : a < 256) : lg a < 255 ∧ gfpow alpha (lg a) = a := by
  -- entry `a - 1` of both lists: `LOG_TABLE[a]` read through `EXP_TABLE` on the left, `a` on the right
  have ht := congrArg (·[a - 1]?) log_exp_table
  simp only [List.getElem?_map, List.getElem?_tail, List.getElem?_range' (show a - 1 < 255 by omega),
    show a - 1 + 1 = a by omega, log_getElem? h, Option.map_some, Option.some.injEq] at ht
  split at ht
  · next hl =>
    rw [List.getD_eq_getElem?_getD, Props.C02_field_exp _ hl, Option.getD_some] at ht
    exact ⟨hl, by omega⟩
  · omega

theorem byte_cases {a : Nat} (ha : a < 256) : a = 0 ∨ ∃ k, a = gfpow alpha k := by
  by_cases h0 : a = 0
  · exact Or.inl h0
  · exact Or.inr ⟨lg a, (gfpow_lg (by omega) ha).2.symm⟩

/-- a power of `α` is not 0: it divides `α^(255·m) = 1` -/
theorem gfpow_alpha_ne_zero (k : Nat) : gfpow alpha k ≠ 0 := by
  intro h
  have := gfpow_alpha_add k (255 - k % 255)
  rw [h, gfmul_zero_left, ← gfpow_alpha_mod, show (k + (255 - k % 255)) % 255 = 0 by omega] at this
  exact absurd this (by decide)

/-- no zero divisors -/
theorem gfmul_ne_zero {a b : Nat} (ha1 : 1 ≤ a) (ha : a < 256) (hb1 : 1 ≤ b) (hb : b < 256) : gfmul a b ≠ 0 := by
  rw [← (gfpow_lg ha1 ha).2, ← (gfpow_lg hb1 hb).2, gfpow_alpha_add]
  exact gfpow_alpha_ne_zero _

theorem gfmul_comm {a b : Nat} (ha : a < 256) (hb : b < 256) : gfmul a b = gfmul b a := by
  rcases byte_cases ha with rfl | ⟨i, rfl⟩
  · simp
  rcases byte_cases hb with rfl | ⟨j, rfl⟩
  · simp
  rw [gfpow_alpha_add, gfpow_alpha_add, Nat.add_comm]

theorem gfmul_assoc {a b c : Nat} (ha : a < 256) (hb : b < 256) (hc : c < 256) :
    gfmul (gfmul a b) c = gfmul a (gfmul b c) := by
  rcases byte_cases ha with rfl | ⟨i, rfl⟩
  · simp
  rcases byte_cases hb with rfl | ⟨j, rfl⟩
  · simp
  rcases byte_cases hc with rfl | ⟨k, rfl⟩
  · simp
  rw [gfpow_alpha_add, gfpow_alpha_add, gfpow_alpha_add, gfpow_alpha_add, Nat.add_assoc]

theorem gfmul_xor_left {a b c : Nat} (ha : a < 256) (hb : b < 256) (hc : c < 256) :
    gfmul (a ^^^ b) c = gfmul a c ^^^ gfmul b c := by
  rw [gfmul_comm (xor_lt_256 ha hb) hc, gfmul_xor_right, gfmul_comm hc ha, gfmul_comm hc hb]

theorem glog_eq {a : Nat} (ha1 : 1 ≤ a) (ha : a < 256) : Model.glog a = .ok (lg a) := by
  simp [Model.glog, idx, log_getElem? ha, show ¬ a < 1 by omega]

theorem gexp_eq (n : Int) : Model.gexp n = .ok (gfpow alpha (n % 255).toNat) := by
  simp [Model.gexp, idx, Props.C02_field_exp (n % 255).toNat (by omega)]

theorem gexp_add_lg {a b : Nat} (ha1 : 1 ≤ a) (ha : a < 256) (hb1 : 1 ≤ b) (hb : b < 256) :
    Model.gexp ((lg a : Int) + (lg b : Int)) = .ok (gfmul a b) := by
  have h : (((lg a : Int) + (lg b : Int)) % 255).toNat = (lg a + lg b) % 255 := by omega
  rw [gexp_eq, h, gfpow_alpha_mod, ← gfpow_alpha_add, (gfpow_lg ha1 ha).2, (gfpow_lg hb1 hb).2]

theorem gexp_glog_add {a b : Nat} (ha1 : 1 ≤ a) (ha : a < 256) (hb1 : 1 ≤ b) (hb : b < 256) :
    (do let la ← Model.glog a; let lb ← Model.glog b; Model.gexp ((la : Int) + (lb : Int))) = .ok (gfmul a b) := by
  rw [glog_eq ha1 ha, glog_eq hb1 hb]
  exact gexp_add_lg ha1 ha hb1 hb

end QR.Proofs
