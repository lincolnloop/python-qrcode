import QR.Gen.Code
import QR.Model.Compile
import QR.Model.QRObject
/-
Translation validation for C09 (as SourceTieC05.lean, which says why there is one file per property): the update test of
`best_mask_pattern`.  Also the Model-side reading of the module-level shortcut `qrcode.make()` (`MakeKw`, `makeShortcut`), whose
bridge theorems are `C09_source_makeShortcut_*`.
-/
namespace QR.SourceTie
open QR.Model QR.Gen.Code

/-- `best_mask_pattern`: eight candidates built with `makeImpl(True, i)`, update test of the running minimum -/
theorem pick_eq (st : Nat × Nat) (i lost : Nat) :
    pickMask st i lost = if pick_update i st.1 lost then (lost, i) else st := by
  unfold pickMask pick_update
  by_cases h1 : i = 0 <;> by_cases h2 : st.1 > lost <;> simp [h1, h2]

theorem candidates : mask_candidates = 8 ∧ mask_trial_call = "self.makeImpl(True, i)" := ⟨rfl, rfl⟩

end QR.SourceTie

namespace QR.SourceTieD6
open QR.Model

/-! ### `qrcode.make(data=None, **kwargs)` (qrcode/main.py) -/

/-- the keyword arguments of `QRCode(...)` the Model knows -/
structure MakeKw where
  version : Option Int
  level : Nat
  boxSize : Int
  border : Int
  mask : Option Int

/-- the shortcut on the object model: construct with ALL keyword arguments, `add_data(data)` (default threshold 20), then
    `make_image()`; the process-wide state `g` is threaded -/
def makeShortcut (g : Global) (kw : MakeKw) (data : Bytes) : R (St × Out) :=
  match construct kw.version kw.level kw.boxSize kw.border kw.mask with
  | .error e => .error e
  | .ok s => .ok (step (step (g, s) (.addData data 20)).1 .makeImage)

end QR.SourceTieD6
