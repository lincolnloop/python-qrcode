import QR.Proofs.SourceTieMakeImage
import QR.Proofs.SourceTieC16
import QR.Proofs.SourceTieMake
/-
Helpers for the sequence-level capstone theorems of QR/Props/C11.lean and C18.lean: the operations of `Model.Op` EXECUTED BY
THE TRANSLATED CODE (`QR.Gen.Code.ob_*`, `make_*`, `get_matrix_*`, `print_*_compile_test`) on the object record `ob_QR` the
translated code works on (`stepSrc`, `runSrc`), and the simulation of the Model's `step` / `run` through `toOb fac`
(`stepSrc_sim`, `runSrc_sim`), by induction from the single-step bridges of QR/Proofs/SourceTieObject.lean,
SourceTieMakeImage.lean, SourceTieMake.lean, SourceTieC16.lean.
-/
namespace QR.CapstoneE5
open QR.Model QR.Gen.Code QR.SourceTieD2 QR.CapstoneE3

/-- the state the translated code works on: the process-wide blank cache and the attribute record of the object -/
abbrev StSrc (F : Type) := Global × ob_QR Seg (List Nat) F

/-- what a `make_image(image_factory=arg, **kwargs)` call of the sequence is made with, and the environment the translated
    `make_image` is parameterised by (`issubclass(., BaseImage)`, truth value of a keyword argument, whether PIL imports, the
    two default classes, the three class flags `needs_drawrect`, `needs_context`, `needs_processing`) - the same for every
    `.makeImage` of a sequence (`Model.Op.makeImage` carries no argument) -/
structure ImgEnv (F K : Type) where
  issub : F → Bool
  truthy : K → Bool
  Image : Bool
  PilImage : F
  PyPNGImage : F
  nd : F → Bool
  nc : F → Bool
  np : F → Bool
  arg : Option F
  kwargs : List (String × K)

/-- `kwargs` carries an embedded image (`embeded_image_path` / `embeded_image` truthy): the test of `make_image` that the Model
    does not have (hypothesis `hk` of `SourceTieD2.makeImage_src`) -/
def ImgEnv.embedded {F K : Type} (E : ImgEnv F K) : Bool :=
  ob_py_truthy_opt E.truthy (ob_py_kwargs_get E.kwargs "embeded_image_path") ||
    ob_py_truthy_opt E.truthy (ob_py_kwargs_get E.kwargs "embeded_image")

/-- what an operation hands back, as the translated code produces it: exceptions by class name, the image as the call of the
    image class (`ob_Call`) and the method calls on it (`ob_Ev`) -/
inductive OutSrc (F K : Type) where
  | unit
  | err (name : String)
  | matrix (m : List (List (Option Bool)))
  | image (im : ob_Call F K) (evs : List ob_Ev)
  | text (border : Nat) (m : List (List (Option Bool)))

/-- the outputs that hand something out (`Props.isProduct` on the translated side) -/
def OutSrc.isProduct {F K : Type} : OutSrc F K → Bool
  | .matrix _ => true
  | .image .. => true
  | .text .. => true
  | _ => false

/-- an object with the given `border`, `modules_count`, `box_size`, `modules` (the other attributes are irrelevant to the draw
    loop of `make_image`, see `draw_congr`) -/
def imgOb {F : Type} (fac : Option F) (b n : Nat) (bs : Int) (m : List (List (Option Bool))) : ob_QR Seg (List Nat) F :=
  { _version := .none, error_correction := 0, box_size := bs, _border := b, _mask_pattern := .none, image_factory := fac,
    modules := m, modules_count := n, data_cache := none, data_list := [] }

/-- the Model's output as the translated code produces it: the exception by name; the Model's `.image b n bs m` as the call
    `cls(b, n, bs, qrcode_modules=m, **kwargs)` of the class `make_image` chooses, with the draw calls of the translated draw
    loop over `m` -/
def outSrc {F K : Type} (E : ImgEnv F K) (fac : Option F) : Out → OutSrc F K
  | .unit => .unit
  | .err e => .err e.name
  | .matrix m => .matrix m
  | .image b n bs m =>
    let im : ob_Call F K :=
      { cls := chosenFactory E.Image E.PilImage E.PyPNGImage fac E.arg, pos := [(b : Int), (n : Int), bs],
        kw := [("qrcode_modules", m)], star := E.kwargs }
    .image im (ob_make_image_draw E.nd E.nc E.np (imgOb fac b n bs m) im)
  | .text b m => .text b m

/-- `self.make(fit)` on the object, through `CapstoneE3.makeSrc` (`make` as assembled from its translated pieces; its callees
    `best_fit`, `best_mask_pattern`, `makeImpl` are the Model's `bestFitS`, `bestMaskS`, `makeImplS`) -/
def makeObSrc {F : Type} (fac : Option F) (fit : Bool) : StSrc F → StSrc F × Except String Unit :=
  fun p => (((makeSrc fit p.1 (ofOb p.2)).1.1, toOb fac (makeSrc fit p.1 (ofOb p.2)).1.2), liftR (makeSrc fit p.1 (ofOb p.2)).2)

/-- result of a translated setter (or of a translated method that cannot raise, wrapped in `.ok`): the new object, or the
    exception and the object unchanged -/
def ofExc {F K : Type} (g : Global) (o : ob_QR Seg (List Nat) F) (r : Except String (ob_QR Seg (List Nat) F)) :
    StSrc F × OutSrc F K :=
  match r with
  | .ok o' => ((g, o'), .unit)
  | .error e => ((g, o), .err e)

/-- `if self.data_cache is None: self.make()` with the translated test `test` (`get_matrix_compile_test`,
    `print_ascii_compile_test`, `print_tty_compile_test`) and `make`'s default `fit` (`make_fit_default`) -/
def ensureSrc {F : Type} (test : Bool → Bool) (st : StSrc F) : StSrc F × Except String Unit :=
  if test st.2.data_cache.isNone then makeObSrc st.2.image_factory make_fit_default st else (st, .ok ())

/-- explicit fallback for an operation without translated counterpart: the Model's `step` on the decoded object -/
def modelFallback {F K : Type} (E : ImgEnv F K) (st : StSrc F) (op : Op) : StSrc F × OutSrc F K :=
  (((step (st.1, ofOb st.2) op).1.1, toOb st.2.image_factory (step (st.1, ofOb st.2) op).1.2),
    outSrc E st.2.image_factory (step (st.1, ofOb st.2) op).2)

/-- the other object of the process that compiles in `.otherCompile cfg segs` (a fresh object with the default border and
    box size, as in `Model.step`) -/
def otherOb (cfg : Cfg) (segs : List Seg) : QRState :=
  { version := cfg.version, level := cfg.level, mask := cfg.mask, border := 4, boxSize := 10, dataList := segs,
    dataCache := none, modules := #[#[]], modulesCount := 0 }

/-- **one operation of `Model.Op` executed by the translated code** on `(blank cache, object record)`:
    * `.addData` / `.addSeg` : `ob_add_data` (`util.optimal_data_chunks` / `util.QRData` = the Model's `optimalDataChunks` / segment
      constructor, as in `SourceTieD2.addData_src`; `.addSeg` with the default `optimize`)
    * `.clear` : `ob_clear`
    * `.make fit` : `makeObSrc` (= `CapstoneE3.makeSrc`, the translated `make`)
    * `.setVersion` / `.setMask` / `.setBorder` : `ob_set_version` (with `util.check_version` = `checkVersionOb`), `ob_set_mask_pattern`,
      `ob_set_border`, on integer / `None` arguments
    * `.setLevel` / `.setBoxSize` : plain attribute assignments in Python (no function in the source): the record update itself
    * `.getMatrix` : the translated pieces of `get_matrix` - `get_matrix_compile_test`, the implicit `make()`, `get_matrix_early`,
      `get_matrix_code` with `False` = `some false`
    * `.makeImage` : `ob_make_image` with `self.make` = `makeObSrc . make_fit_default`, in the environment `E`
    * `.printAscii` / `.printTty` : the translated implicit-compile tests `print_ascii_compile_test` / `print_tty_compile_test` and
      the implicit `make()`; the output is the Model's abstract `.text border modules` (the rendered text is outside `Model.Out`)
    * `.otherCompile` : `makeSrc` on a fresh object sharing the blank cache
    * `.mutateModules` : NOT library code (the caller writes into `qr.modules`): explicit fallback to the Model's `step` -/
def stepSrc {F K : Type} (E : ImgEnv F K) (st : StSrc F) (op : Op) : StSrc F × OutSrc F K :=
  match op with
  | .addData d n =>
      ofExc st.1 st.2 (.ok (ob_add_data (fun d k => optimalDataChunks d k.toNat)
        (fun d => ({ mode := optimalMode d, data := d } : Seg)) st.2 (.inr d) (n : Int)))
  | .addSeg x =>
      ofExc st.1 st.2 (.ok (ob_add_data (fun (d : Bytes) k => optimalDataChunks d k.toNat)
        (fun d => ({ mode := optimalMode d, data := d } : Seg)) st.2 (.inl x) ob_add_data_optimize_default))
  | .clear => ofExc st.1 st.2 (.ok (ob_clear st.2))
  | .make fit =>
      match makeObSrc st.2.image_factory fit st with
      | (st', .ok _) => (st', .unit)
      | (st', .error e) => (st', .err e)
  | .setVersion x => ofExc st.1 st.2 (ob_set_version checkVersionOb st.2 (optVal x))
  | .setLevel l => ((st.1, { st.2 with error_correction := (l : Int) }), .unit)
  | .setMask x => ofExc st.1 st.2 (ob_set_mask_pattern st.2 (optVal x))
  | .setBorder x => ofExc st.1 st.2 (ob_set_border st.2 (.int x))
  | .setBoxSize x => ((st.1, { st.2 with box_size := x }), .unit)
  | .getMatrix =>
      match ensureSrc get_matrix_compile_test st with
      | (st', .error e) => (st', .err e)
      | (st', .ok _) =>
        (st', .matrix (if get_matrix_early st'.2._border.toNat then st'.2.modules
                       else get_matrix_code (some false) st'.2.modules st'.2._border.toNat))
  | .mutateModules r c x => modelFallback E st (.mutateModules r c x)
  | .makeImage =>
      match ob_make_image E.issub E.truthy E.Image E.PilImage E.PyPNGImage E.nd E.nc E.np
          (makeObSrc st.2.image_factory make_fit_default) st.1 st.2 E.arg E.kwargs with
      | (st', .ok (im, evs)) => (st', .image im evs)
      | (st', .error e) => (st', .err e)
  | .printAscii =>
      match ensureSrc print_ascii_compile_test st with
      | (st', .error e) => (st', .err e)
      | (st', .ok _) => (st', .text st'.2._border.toNat st'.2.modules)
  | .printTty =>
      match ensureSrc print_tty_compile_test st with
      | (st', .error e) => (st', .err e)
      | (st', .ok _) => (st', .text 1 st'.2.modules)
  | .otherCompile cfg segs =>
      (((makeSrc cfg.fit st.1 (otherOb cfg segs)).1.1, st.2), .unit)

/-- a sequence of operations executed by the translated code: the fold of `stepSrc`, collecting the outputs (same shape as
    `Model.run`) -/
def runSrc {F K : Type} (E : ImgEnv F K) (st : StSrc F) (ops : List Op) : StSrc F × List (OutSrc F K) :=
  ops.foldl (fun (acc : StSrc F × List (OutSrc F K)) op => let (st', o) := stepSrc E acc.1 op; (st', acc.2 ++ [o])) (st, [])

theorem toOb_image_factory {F : Type} (fac : Option F) (s : QRState) : (toOb fac s).image_factory = fac := rfl
theorem toOb_data_cache {F : Type} (fac : Option F) (s : QRState) : (toOb fac s).data_cache = s.dataCache := rfl
theorem toOb_modules {F : Type} (fac : Option F) (s : QRState) : (toOb fac s).modules = s.modules.toLists := rfl
theorem toOb_border {F : Type} (fac : Option F) (s : QRState) : (toOb fac s)._border.toNat = s.border := by
  simp [toOb]

theorem toOb_injective {F : Type} (fac : Option F) {s s' : QRState} (h : toOb fac s = toOb fac s') : s = s' := by
  rw [← ofOb_toOb fac s, h, ofOb_toOb]

theorem draw_congr {D C F K : Type} (nd nc np : F → Bool) (o o' : ob_QR D C F) (im : ob_Call F K)
    (h1 : o.modules = o'.modules) (h2 : o.modules_count = o'.modules_count) :
    ob_make_image_draw nd nc np o im = ob_make_image_draw nd nc np o' im := by
  simp only [ob_make_image_draw, ob_make_image_row, ob_make_image_cell, h1, h2]

theorem makeObSrc_toOb {F : Type} (fac : Option F) (fit : Bool) (g : Global) (s : QRState) :
    makeObSrc fac fit (g, toOb fac s) =
      (((makeS fit (g, s)).1.1, toOb fac (makeS fit (g, s)).1.2), liftR (makeS fit (g, s)).2) := by
  simp only [makeObSrc, ofOb_toOb, makeSrc_eq]

/-- `self.make()` as `make_image` calls it: the parameter of the bridge `makeImage_src` -/
theorem makeObSrc_default {F : Type} (fac : Option F) : makeObSrc fac make_fit_default = makeOb fac := by
  funext p
  simp only [makeObSrc, makeOb, makeSrc_eq, make_fit_default]

/-- an `Agrees` bridge, read as an equation on `ofExc` -/
theorem agrees_ofExc {F K : Type} (E : ImgEnv F K) {fac : Option F} {g : Global} {s : QRState}
    {r : Except String (ob_QR Seg (List Nat) F)} {res : St × Out} (h : Agrees fac g s r res) :
    (ofExc g (toOb fac s) r : StSrc F × OutSrc F K) = ((res.1.1, toOb fac res.1.2), outSrc E fac res.2) := by
  obtain ⟨⟨g', s'⟩, o⟩ := res
  cases o with
  | unit =>
    obtain ⟨rfl, rfl⟩ := h
    rfl
  | err e =>
    obtain ⟨rfl, h2⟩ := h
    cases h2
    rfl
  | matrix m | image b n bs m | text b m => exact h.elim

theorem ensureSrc_toOb {F : Type} (test : Bool → Bool) (htest : ∀ b, test b = b) (fac : Option F) (g : Global) (s : QRState) :
    ensureSrc test (g, toOb fac s) =
      (((ensureMade (g, s)).1.1, toOb fac (ensureMade (g, s)).1.2), liftR (ensureMade (g, s)).2) := by
  simp only [ensureSrc, htest, toOb_data_cache, toOb_image_factory, makeObSrc_toOb]
  cases hd : s.dataCache with
  | some d => simp [ensureMade, hd, liftR]
  | none => simp [ensureMade, hd, make_fit_default]

/-- **single-step simulation**: an operation executed by the translated code on the image of a Model state is the Model's
    `step`, through `toOb fac` on the state and `outSrc` on the output.  Hypotheses of the `make_image` bridge, needed for
    `.makeImage` only: no embedded image in `kwargs` unless the level is H (`hk`); the `image_factory` argument, if given, is a
    subclass of `BaseImage` (`hf`). -/
theorem stepSrc_sim {F K : Type} (E : ImgEnv F K) (fac : Option F) (g : Global) (s : QRState) (op : Op)
    (hk : op = .makeImage → (E.embedded = false ∨ s.level = 2))
    (hf : op = .makeImage → ∀ f, E.arg = some f → E.issub f = true) :
    stepSrc E (g, toOb fac s) op =
      (((step (g, s) op).1.1, toOb fac (step (g, s) op).1.2), outSrc E fac (step (g, s) op).2) := by
  cases op with
  | addData d n => exact agrees_ofExc E (addData_src fac g s d n)
  | addSeg x => exact agrees_ofExc E (addSeg_src fac g s x _ _ _)
  | clear => exact agrees_ofExc E (stepClear_src fac g s)
  | setVersion x => exact agrees_ofExc E (setVersion_src fac g s x)
  | setMask x => exact agrees_ofExc E (setMask_src fac g s x)
  | setBorder x => exact agrees_ofExc E (setBorder_src fac g s x)
  | setLevel l | setBoxSize x => rfl
  | make fit =>
    simp only [stepSrc, step, toOb_image_factory, makeObSrc_toOb]
    cases h : makeS fit (g, s) with
    | mk st r => cases r <;> simp [liftR, outSrc]
  | getMatrix =>
    simp only [stepSrc, step, ensureSrc_toOb get_matrix_compile_test (fun _ => rfl)]
    cases h : ensureMade (g, s) with
    | mk st r => cases r <;> simp [liftR, outSrc, QR.SourceTieB.framedOpt_src, toOb_border, toOb_modules]
  | printAscii =>
    simp only [stepSrc, step, ensureSrc_toOb print_ascii_compile_test (fun _ => rfl)]
    cases h : ensureMade (g, s) with
    | mk st r => cases r <;> simp [liftR, outSrc, toOb_border, toOb_modules]
  | printTty =>
    simp only [stepSrc, step, ensureSrc_toOb print_tty_compile_test (fun _ => rfl)]
    cases h : ensureMade (g, s) with
    | mk st r => cases r <;> simp [liftR, outSrc, toOb_modules]
  | mutateModules r c x => simp only [stepSrc, modelFallback, ofOb_toOb, toOb_image_factory]
  | otherCompile cfg segs =>
    simp only [stepSrc, step, makeSrc_eq]
    cases h : makeS cfg.fit (g, otherOb cfg segs) with
    | mk st r =>
      -- `Model.step` spells the fresh object out as a record: `otherOb` unfolded, `h` rewrites that side too
      simp only [otherOb] at h
      rw [h]; rfl
  | makeImage =>
    simp only [stepSrc, toOb_image_factory, makeObSrc_default]
    rw [makeImage_src E.issub E.truthy E.Image E.PilImage E.PyPNGImage E.nd E.nc E.np fac g s E.arg E.kwargs (hk rfl)
      (hf rfl), step_read (op := .makeImage) rfl]
    cases readGuard .makeImage s with
    | error e => rfl
    | ok u =>
      cases ensureMade (g, s) with
      | mk st' r =>
        cases r with
        | error e => rfl
        | ok u =>
          simp only [readout, outSrc]
          rw [draw_congr E.nd E.nc E.np (toOb fac st'.2) (imgOb fac st'.2.border st'.2.modulesCount st'.2.boxSize
            st'.2.modules.toLists) _ rfl rfl]

/-- the hypothesis `hk` of the `make_image` bridge along a sequence started in state `s`: `kwargs` carries no embedded image, or the
    level is H (= 2, `constants.ERROR_CORRECT_H`) at the start and no operation of the sequence assigns another level -/
def EmbeddedOK {F K : Type} (E : ImgEnv F K) (s : QRState) (ops : List Op) : Prop :=
  E.embedded = false ∨ (s.level = 2 ∧ ∀ l, Op.setLevel l ∈ ops → l = 2)

theorem EmbeddedOK.take {F K : Type} {E : ImgEnv F K} {s : QRState} {ops : List Op} (h : EmbeddedOK E s ops) (n : Nat) :
    EmbeddedOK E s (ops.take n) :=
  h.imp id fun ⟨a, b⟩ => ⟨a, fun l hl => b l (List.mem_of_mem_take hl)⟩

theorem runSrc_cons {F K : Type} (E : ImgEnv F K) (st : StSrc F) (op : Op) (ops : List Op) :
    runSrc E st (op :: ops) =
      ((runSrc E (stepSrc E st op).1 ops).1, (stepSrc E st op).2 :: (runSrc E (stepSrc E st op).1 ops).2) :=
  foldCollect_cons (stepSrc E) st op ops

private theorem runSrc_sim_aux {F K : Type} (E : ImgEnv F K)
    (hf : ∀ f, E.arg = some f → E.issub f = true) (fac : Option F) (ops : List Op) (g : Global) (s : QRState)
    (hk : E.embedded = false ∨ (GInv g ∧ s.level = 2 ∧ ∀ l, Op.setLevel l ∈ ops → l = 2)) :
    runSrc E (g, toOb fac s) ops =
      (((run (g, s) ops).1.1, toOb fac (run (g, s) ops).1.2), (run (g, s) ops).2.map (outSrc E fac)) := by
  induction ops generalizing g s with
  | nil => rfl
  | cons op ops ih =>
    have hk' : E.embedded = false ∨ (GInv (step (g, s) op).1.1 ∧ (step (g, s) op).1.2.level = 2 ∧
        ∀ l, Op.setLevel l ∈ ops → l = 2) := by
      rcases hk with hk | ⟨hg, hl, hops⟩
      · exact Or.inl hk
      · -- the level stays H: only a `.setLevel l` assigns it, and those of the sequence have `l = 2`
        have hlev : (step (g, s) op).1.2.level = s.level :=
          (step_inv g s op hg).2.2.2.2 fun l hop => (hops l (hop ▸ List.mem_cons_self)).trans hl.symm
        exact Or.inr ⟨(step_inv g s op hg).1, hlev.trans hl, fun l hl' => hops l (List.mem_cons_of_mem _ hl')⟩
    rw [runSrc_cons, run_cons, stepSrc_sim E fac g s op (fun _ => hk.imp id fun h => h.2.1) (fun _ => hf), ih _ _ hk']
    rfl

/-- **simulation**: a sequence of operations executed by the translated code from the image of a Model state ends in the image
    of the state `Model.run` ends in, with the same process-wide cache, and has produced the images (`outSrc`) of the outputs of
    `Model.run`.  Hypotheses (used by the `.makeImage` steps only): `kwargs` carries no embedded image (`hk`; for the
    alternative `level = H` of the single-step bridge see `runSrc_sim_gen`), and the `image_factory` argument, if given, is a
    subclass of `BaseImage` (`hf`). -/
theorem runSrc_sim {F K : Type} (E : ImgEnv F K) (hk : E.embedded = false)
    (hf : ∀ f, E.arg = some f → E.issub f = true) (fac : Option F) (g : Global) (s : QRState) (ops : List Op) :
    runSrc E (g, toOb fac s) ops =
      (((run (g, s) ops).1.1, toOb fac (run (g, s) ops).1.2), (run (g, s) ops).2.map (outSrc E fac)) :=
  runSrc_sim_aux E hf fac ops g s (Or.inl hk)

/-- **simulation, with the full hypothesis of the `make_image` bridge**: `kwargs` carries no embedded image, OR the level is H at the
    start and stays H (`EmbeddedOK`; the level is invariant under every operation but `.setLevel`, `step_inv`, which needs the
    invariant `GInv` of the blank cache) -/
theorem runSrc_sim_gen {F K : Type} (E : ImgEnv F K) (hf : ∀ f, E.arg = some f → E.issub f = true) (fac : Option F)
    (g : Global) (hg : GInv g) (s : QRState) (ops : List Op) (hk : EmbeddedOK E s ops) :
    runSrc E (g, toOb fac s) ops =
      (((run (g, s) ops).1.1, toOb fac (run (g, s) ops).1.2), (run (g, s) ops).2.map (outSrc E fac)) :=
  runSrc_sim_aux E hf fac ops g s (hk.imp id fun h => ⟨hg, h⟩)

theorem init_eq_ok {F : Type} (issub : F → Bool) (fac : Option F) (hf : ∀ f, fac = some f → issub f = true)
    (self0 : ob_QR Seg (List Nat) F) (version : Option Int) (level : Nat) (box border : Int) (mask : Option Int)
    (o : ob_QR Seg (List Nat) F) :
    ob_init checkVersionOb issub self0 (optVal version) (.int level) (.int box) (.int border) fac (optVal mask) = .ok o ↔
      ∃ s0, construct version level box border mask = .ok s0 ∧ o = toOb fac s0 := by
  rw [construct_src issub fac hf]
  cases construct version level box border mask with
  | error e => simp [liftR, Except.map]
  | ok s => simp [liftR, Except.map, eq_comm]

/-! ### a concrete environment and start state for the `example`s of the Props files -/

/-- every class is a subclass of `BaseImage`, needs `drawrect` without context and needs processing; PIL imports; `make_image()`
    is called without arguments -/
def exampleEnv : ImgEnv Unit Unit :=
  { issub := fun _ => true, truthy := fun _ => false, Image := true, PilImage := (), PyPNGImage := (), nd := fun _ => true,
    nc := fun _ => false, np := fun _ => true, arg := none, kwargs := [] }

/-- the state of `QRCode()` (all defaults) -/
def exampleState : QRState :=
  { version := 0, level := 0, mask := none, border := 4, boxSize := 10, dataList := [], dataCache := none, modules := #[#[]],
    modulesCount := 0 }

end QR.CapstoneE5
