import QR.Proofs.SourceTieC04
import QR.Proofs.SourceTieC05MapData
import QR.Proofs.SourceTieC05Patterns
import QR.Proofs.SourceTieMake
import QR.Proofs.Except
import QR.Props.C04
/-
For the capstone theorems `C05_source_capstone_*` (QR/Props/C05.lean): the `…Src` assemblies of `mask_func` and `makeImpl`
(what an `…Src` definition is: SourceTieC02.lean, last section; `blankSrc` stands beside its bridge in SourceTieC05Patterns.lean).
Two proofs: the selected lambda is the Model's mask function (`maskFuncSrc_eq`), and the assembled `makeImpl` is the Model's
(`makeImplSrc_eq`, which the whole-compile capstones of CapstoneCompile.lean use as well).
-/
namespace QR.CapstoneE2
open QR.Model QR.Gen.Code

/-- the eight translated lambdas of `util.mask_func`, selected by `pattern` (the `if pattern == k: return lambda …` dispatch
    itself is not translated; a pattern outside 0..7 - where Python raises TypeError - selects the constant `false`) -/
def maskFuncSrc (pattern : Nat) : Nat → Nat → Bool :=
  [mask_func_0, mask_func_1, mask_func_2, mask_func_3, mask_func_4, mask_func_5, mask_func_6, mask_func_7].getD pattern
    (fun _ _ => false)

theorem maskFuncSrc_eq (p : Nat) (hp : p < 8) : maskFuncSrc p = maskFunc p := by
  match p, hp with
  | 0, _ | 1, _ | 2, _ | 3, _ | 4, _ | 5, _ | 6, _ | 7, _ => rfl

open QR.SourceTieT in
/-- `QRCode.makeImpl(test, mask_pattern)` given the codewords, assembled from source-assembled parts only: `blankSrc`,
    `setupTypeInfoSrc`, `setupTypeNumberSrc` (BCH functions source-assembled over `digit`), the translated call arguments and
    version test, and the translated `map_data` skeleton `srcMapData` run with the translated mask lambdas (fuel
    `modules_count` for its `while True` loops; running out of fuel would be reported as `.error .other`) -/
def makeImplSrc (digit : Nat → Nat) (version level : Nat) (test : Bool) (mask : Nat) (data : List Nat) : R Mat := do
  let n := makeImpl_modules_count version
  let m ← blankSrc version
  let m := setupTypeInfoSrc (bchTypeInfoSrc digit) n level m (makeImpl_type_info_args test mask).1
    (makeImpl_type_info_args test mask).2
  let m := if makeImpl_type_number_test version
    then setupTypeNumberSrc (bchTypeNumberSrc digit) n version m (makeImpl_type_number_arg test) else m
  if (makeImpl_map_args mask).2 > 7 then .error .typeError
  else
    match srcMapData n (maskFuncSrc (makeImpl_map_args mask).2) data n m with
    | some M => .ok M
    | none => .error .other

/-- the source-assembled `makeImpl` is `Model.makeImpl`, for every version ≥ 1 (`C05_source_makeImplSrc_eq`): a composition of
    the bridges `makeImpl_src`, `blank_patterns_src`, `C04_source_setupTypeInfoSrc_eq`, `C04_source_setupTypeNumberSrc_eq`,
    `mapData_src_version` and `maskFuncSrc_eq` -/
theorem makeImplSrc_eq (v level : Nat) (test : Bool) (mask : Nat) (data : List Nat) (hv : 1 ≤ v) :
    makeImplSrc bchDigit v level test mask data = makeImpl v level test mask data := by
  rw [QR.SourceTieB.makeImpl_src]
  unfold makeImplSrc
  rw [← QR.SourceTieD6.blank_patterns_src v hv]
  cases hB : blank v with
  | error e => rfl
  | ok B =>
    have hn : 15 ≤ makeImpl_modules_count v := by unfold makeImpl_modules_count; omega
    simp only [R.bind_ok, QR.Props.C04_source_setupTypeInfoSrc_eq _ _ hn,
      QR.Props.C04_source_setupTypeNumberSrc_eq _ _ (Nat.le_trans (by omega) hn)]
    by_cases hm : (makeImpl_map_args mask).2 > 7
    · simp only [if_pos hm]
    · simp only [if_neg hm]
      have hk : mask < 8 := by simp only [makeImpl_map_args] at hm; omega
      rw [show (makeImpl_map_args mask).2 = mask from rfl, maskFuncSrc_eq mask hk]
      rw [show makeImpl_modules_count v = v * 4 + 17 from rfl, QR.SourceTieT.mapData_src_version]
      rfl

end QR.CapstoneE2
