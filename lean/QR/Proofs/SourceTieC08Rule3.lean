import QR.Gen.Code
import QR.Model.Penalty
import QR.Proofs.SourceTieC08
/-
Translation validation of `util._lost_point_level3` (both passes with their `iter(...)` / `next(it, None)` Horspool skip) and of
`util.lost_point` (the sum of the four scanners).  The fragments `QR.Gen.Code.l3f_*` are produced by
tools/t2_fragments/frag_d3.py from the Python AST: the range bounds, the initial value, the bodies of the two inner loops as state
machines over the iterator position (`l3f_row_step`, `l3f_col_step`) and the function in statement order (`l3f_level3`).  The
Model (`l3scan` on every row and every column, as lists) is proved equal to it on every `n × n` matrix, for every `n ≥ 0`.
-/
namespace QR.SourceTieD3
open QR.Model QR.Gen.Code QR.SourceTieT

/-! ## `_lost_point_level3` -/

/-- what one iteration of either inner loop does, in terms of the line `g` it reads: the iterator position after the
    iteration (`pos + 1`, or `pos + 2` when the cell at `pos + 10` is dark) and the new `lost_point` -/
def stepSpec (g : Nat → Bool) (pos lost : Nat) : Nat × Nat :=
  (if g (pos + 10) then pos + 2 else pos + 1,
   lost + if cond3 (g pos) (g (pos + 1)) (g (pos + 2)) (g (pos + 3)) (g (pos + 4)) (g (pos + 5)) (g (pos + 6)) (g (pos + 7))
      (g (pos + 8)) (g (pos + 9)) (g (pos + 10)) then 40 else 0)

/-- the shape of both translated bodies: the window test `c` decides the score, the cell at offset 10 the advance -/
private theorem step_aux (c a10 : Bool) (p lost : Nat) :
    (if c = true then (if a10 = true then (p + 1 + 1, lost + 40) else (p + 1, lost + 40))
      else (if a10 = true then (p + 1 + 1, lost) else (p + 1, lost)))
    = ((if a10 = true then p + 2 else p + 1), lost + if c = true then 40 else 0) := by
  cases c <;> cases a10 <;> rfl

/-- the translated body of the ROW pass (`for col in modules_range_short_iter`): it reads `modules[row][col + k]`, k = 0..10 -/
theorem row_step_src (m : Nat → Nat → Bool) (row col lost : Nat) :
    l3f_row_step m row col lost = stepSpec (fun c => m row c) col lost := by
  unfold l3f_row_step stepSpec
  simp only [Nat.add_zero]
  exact step_aux _ _ col lost

/-- the translated body of the COLUMN pass (`for row in modules_range_short_iter`): it reads `modules[row + k][col]` -/
theorem col_step_src (m : Nat → Nat → Bool) (col row lost : Nat) :
    l3f_col_step m col row lost = stepSpec (fun r => m r col) row lost := by
  unfold l3f_col_step stepSpec
  simp only [Nat.add_zero]
  exact step_aux _ _ row lost

/-! ### the fuel of `l3f_iter_run` is enough: fuel-free big-step semantics of the iterator loop -/

/-- `for x in it: body` over `it = iter(range(stop))` whose body may advance `it`, as an inductive big-step relation on
    (iterator position, accumulator): no fuel -/
inductive IterFor (stop : Nat) (step : Nat → Nat → Nat × Nat) : Nat → Nat → Nat → Prop
  | done (pos acc : Nat) : ¬ pos < stop → IterFor stop step pos acc acc
  | next (pos acc r : Nat) : pos < stop → IterFor stop step (step pos acc).1 (step pos acc).2 r → IterFor stop step pos acc r

theorem IterFor_det {stop : Nat} {step : Nat → Nat → Nat × Nat} {pos acc r1 r2 : Nat}
    (h1 : IterFor stop step pos acc r1) (h2 : IterFor stop step pos acc r2) : r1 = r2 := by
  induction h1 with
  | done pos acc hn =>
    cases h2 with
    | done _ _ _ => rfl
    | next _ _ _ hlt _ => exact absurd hlt hn
  | next pos acc r hlt _ ih =>
    cases h2 with
    | done _ _ hn => exact absurd hlt hn
    | next _ _ _ _ h => exact ih h

/-- for a body that leaves the iterator strictly ahead, the fuelled run with any fuel `≥ stop - pos` IS the loop's result -/
theorem iter_run_sound (stop : Nat) (step : Nat → Nat → Nat × Nat) (hadv : ∀ p a, p < (step p a).1) :
    ∀ (fuel pos acc : Nat), stop - pos ≤ fuel → IterFor stop step pos acc (l3f_iter_run stop step fuel pos acc) := by
  intro fuel
  induction fuel with
  | zero =>
    intro pos acc h
    rw [l3f_iter_run]
    exact IterFor.done pos acc (by omega)
  | succ fuel ih =>
    intro pos acc h
    rw [l3f_iter_run]
    by_cases hlt : pos < stop
    · rw [if_pos hlt]
      exact IterFor.next pos acc _ hlt (ih _ _ (by have := hadv pos acc; omega))
    · rw [if_neg hlt]
      exact IterFor.done pos acc hlt

theorem steps_advance (m : Nat → Nat → Bool) (o x lost : Nat) :
    x < (l3f_row_step m o x lost).1 ∧ x < (l3f_col_step m o x lost).1 := by
  rw [row_step_src, col_step_src]
  simp only [stepSpec]
  constructor <;> split <;> omega

/-- one line: the position state machine started at position `k`, where the rest of the line is `l`, adds `l3scan l` -/
private theorem iter_run_line (g : Nat → Bool) (stop : Nat) (l : List Bool) :
    ∀ (fuel k acc : Nat), Reads false g k l → stop = k + l.length - 10 → l.length - 10 ≤ fuel →
      l3f_iter_run stop (stepSpec g) fuel k acc = acc + l3scan l := by
  induction l using l3scan.induct with
  | case1 a0 a1 a2 a3 a4 a5 a6 a7 a8 a9 a10 t ih1 ih2 =>
    intro fuel k acc hg hstop hfuel
    simp only [List.length_cons] at hstop hfuel ih1 ih2
    cases fuel with
    | zero => omega
    | succ fuel =>
      rw [l3f_iter_run, if_pos (by omega), l3scan]
      -- the eleven cells the body reads, `g (k + i)`, are the entries `a0 .. a10` of the list
      simp only [stepSpec, hg.head, show ∀ i, g (k + i) = _ from hg, List.getD_cons_succ, List.getD_cons_zero]
      cases a10 with
      | true =>
        simp only [if_true]
        rw [ih1 fuel (k + 2) _ hg.tail.tail (by omega) (by omega)]
        omega
      | false =>
        simp only [Bool.false_eq_true, if_false]
        rw [ih2 fuel (k + 1) _ hg.tail (by omega) (by omega)]
        omega
  | case2 l hno =>
    intro fuel k acc hg hstop hfuel
    have hshort : l.length < 11 := QR.Proofs.Rule3.short_of_not_cons11 hno
    rw [l3scan]
    · cases fuel with
      | zero => rfl
      | succ fuel => rw [l3f_iter_run, if_neg (by omega)]; rfl
    · exact hno

/-- one line of length `n`, scanned through `get` from position 0 with the bounds of the source -/
private theorem line_scan (n : Nat) {step : Nat → Nat → Nat × Nat} (get : Nat → Bool) {l : List Bool}
    (hstep : ∀ x acc, step x acc = stepSpec get x acc) (hget : Reads false get 0 l) (hl : l.length = n) (acc : Nat) :
    l3f_iter_run (n - 10) step (n - 10) 0 acc = acc + l3scan l := by
  rw [show step = stepSpec get from funext fun x => funext (hstep x)]
  exact iter_run_line _ (n - 10) l (n - 10) 0 acc hget (by omega) (by omega)

/-- **`_lost_point_level3`, complete**: on every `n × n` matrix (every `n ≥ 0`; `range(n - 10)` is empty for `n ≤ 10`) the
    Model's `level3` (the list recursion `l3scan` on all rows and all columns) equals the translated source: `lost_point = 0`,
    the row pass `for row in range(n): it = iter(range(n - 10)); for col in it: <translated body>` and the column pass, both
    run as state machines over the iterator position (`next(it, None)` = one more advance). -/
theorem lostPointLevel3_src (M : BMat) (n : Nat) (hlen : M.length = n) (hrow : ∀ row ∈ M, row.length = n) :
    level3 M n = l3f_level3 (lp_cell M) n := by
  have h0 : (l3f_range0_stop n).toNat = n := by unfold l3f_range0_stop; omega
  have h1 : (l3f_range1_stop n).toNat = n - 10 := by unfold l3f_range1_stop; omega
  unfold l3f_level3 l3f_pass level3
  simp only [h0, h1, l3f_init]
  rw [both_passes M n hlen (fun acc l => acc + l3scan l)
      (fun acc o ho => line_scan n (lp_cell M o) (row_step_src _ o) (reads_row M o) (hrow _ (getD_mem (hlen ▸ ho) [])) acc)
      (fun acc o _ => line_scan n (fun r => lp_cell M r o) (col_step_src _ o) (reads_col M o) (by simp [hlen]) acc),
    foldl_add_map, Nat.zero_add]

/-! ## `lost_point` -/

/-- **`lost_point`**: the Model's `lostPoint` equals the translated function (`modules_count = len(modules)`, `lost_point = 0`,
    `lost_point = level1(..)`, three `lost_point += level_k(modules, modules_count)`, `return lost_point`) applied to the four
    TRANSLATED scanners (`level1Src`, `level2Src` of SourceTieC08.lean, `l3f_level3`, and the exact value of the rule-4 float
    expression), for every square matrix. -/
theorem lostPoint_src (M : BMat) (hrow : ∀ row ∈ M, row.length = M.length) :
    lostPoint M = l3f_lost_point List.length level1Src level2Src (fun M n => l3f_level3 (lp_cell M) n)
      (fun M n => (lp4_result (lp4_dark_count M) n).toNat) M := by
  unfold lostPoint l3f_lost_point
  -- the `let`s of both functions (`n`, `modules_count`, the running `lost_point`) are substituted
  simp only []
  rw [lostPointLevel1_src M _ rfl hrow, lostPointLevel2_src M _ rfl hrow, lostPointLevel3_src M _ rfl hrow,
    ← lostPointLevel4_src M M.length]
  simp

end QR.SourceTieD3
