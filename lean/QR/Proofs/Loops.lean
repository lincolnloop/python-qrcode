/-
The stepped loop `for i in range(start, stop, s): … l[i : i + s] …` as a recursion over the pieces of `l` (`chunks`, `slices`),
for the source bridges that meet it; the unstepped loop shapes are in `QR.Proofs.Lists`.  Plain lists and numbers only: no
translated definition is mentioned, so importing this file couples no property to another one's source.
-/
namespace QR.Loops

/-- `range(a, …, s)` written with a multiplication, as the translator's preludes do -/
theorem range_map_eq_range' (a s : Nat) : ∀ k, (List.range k).map (fun j => a + s * j) = List.range' a k s
  | 0 => rfl
  | k + 1 => by
    rw [List.range_succ, List.map_append, range_map_eq_range' a s k, List.range'_concat]
    simp

/-- `l` cut into `k` pieces of length `s` (the last ones shorter, or empty) -/
def chunks {α : Type} (s : Nat) : Nat → List α → List (List α)
  | 0, _ => []
  | k + 1, l => l.take s :: chunks s k (l.drop s)

/-- `for i in range(start, …, s): … l[i : i + s] …` visits the chunks of `l[start:]`: this turns a loop over indices into a
    recursion over the list, whatever the body -/
theorem map_slice_range' {α : Type} (s : Nat) (l : List α) : ∀ (k start : Nat),
    (List.range' start k s).map (fun i => (l.drop i).take s) = chunks s k (l.drop start)
  | 0, _ => rfl
  | k + 1, start => by
    rw [List.range'_succ, List.map_cons, map_slice_range' s l k (start + s), chunks, List.drop_drop]

/-- `l` cut into pieces of length `s`, the last one shorter if `s` does not divide the length: what
    `for i in range(0, len(l), s): … l[i : i + s] …` visits -/
def slices {α : Type} (s : Nat) (l : List α) : List (List α) := chunks s ((l.length + s - 1) / s) l

theorem slices_nil {α : Type} (s : Nat) (hs : 0 < s) : slices s ([] : List α) = [] := by
  unfold slices
  rw [List.length_nil, Nat.zero_add, Nat.div_eq_of_lt (by omega)]
  rfl

theorem slices_cons {α : Type} (s : Nat) (hs : 0 < s) (a : α) (l : List α) :
    slices s (a :: l) = (a :: l).take s :: slices s ((a :: l).drop s) := by
  have hcount : ∀ m, 0 < m → (m + s - 1) / s = (m - s + s - 1) / s + 1 := by
    intro m hm
    rw [show m + s - 1 = m - 1 + s by omega, Nat.add_div_right _ hs]
    by_cases h : m ≤ s
    · rw [Nat.div_eq_of_lt (by omega), Nat.div_eq_of_lt (by omega)]
    · rw [show m - s + s - 1 = m - 1 by omega]
  unfold slices
  rw [hcount (a :: l).length (Nat.zero_lt_succ _), chunks, List.length_drop]

theorem foldlM_slices {α σ ε : Type} (s : Nat) (l : List α) (f : σ → List α → Except ε σ) (b : σ) :
    (List.range' 0 ((l.length + s - 1) / s) s).foldlM (fun b i => f b ((l.drop i).take s)) b = (slices s l).foldlM f b := by
  rw [← List.foldlM_map (f := fun i => (l.drop i).take s) (g := f), map_slice_range', List.drop_zero]
  rfl

end QR.Loops
