import QR.Proofs.MatLemmas
import QR.Proofs.GeomLemmas
import QR.Proofs.Finite
import QR.Proofs.Except
/-
The cached blank matrix of `makeImpl` (finder patterns + separators, alignment patterns, timing patterns) is, cell by
cell, the ISO geometry of QR/Spec/Geometry.lean - for all 40 versions (`blank_spec`).
The finder writer overwrites, so it is a painting step (`Model.Paints`).  The alignment and timing writers skip cells that
are not `None`; each is a fold whose result is stated in terms of the matrix it started on (`adjust_foldl`, `fill_foldl`).
Of the alignment table the proof uses only `AlignOK` (coordinates 6, n - 7 or well inside, any two at least 6 apart).
-/
namespace QR
open Model

/-! ### finder patterns: `setup_position_probe_pattern` paints a 9x9 window, three of them make the finder area -/

/-- the three-clause test of `setup_position_probe_pattern`, on the offsets `r, c ∈ -1..7` -/
def probeDark (r c : Int) : Bool :=
  decide ((0 ≤ r ∧ r ≤ 6 ∧ (c = 0 ∨ c = 6)) ∨ (0 ≤ c ∧ c ≤ 6 ∧ (r = 0 ∨ r = 6)) ∨ (2 ≤ r ∧ r ≤ 4 ∧ 2 ≤ c ∧ c ≤ 4))

/-- the 9x9 window rows row-1..row+7, columns col-1..col+7 -/
def inProbeWindow (row col r c : Nat) : Prop := row ≤ r + 1 ∧ r ≤ row + 7 ∧ col ≤ c + 1 ∧ c ≤ col + 7

instance (row col r c : Nat) : Decidable (inProbeWindow row col r c) := by unfold inProbeWindow; infer_instance

/-- `setup_position_probe_pattern(row, col)` overwrites exactly its 9x9 window (clipped to the matrix) with the
    value of the three-clause test -/
theorem paints_setupProbe (n row col : Nat) :
    Paints n (fun m => setupProbe n m row col) (inProbeWindow row col)
      (fun r c => some (probeDark ((r : Int) - row) ((c : Int) - col))) := by
  refine (Paints.foldl₂ (List.range 9) (List.range 9)
    (f := fun m (r' c' : Nat) => m.setI n ((row : Int) + (Int.ofNat r' - 1)) ((col : Int) + (Int.ofNat c' - 1))
      (probeDark (Int.ofNat r' - 1) (Int.ofNat c' - 1)))
    (P := fun r' c' r c => (r : Int) = (row : Int) + (Int.ofNat r' - 1) ∧ (c : Int) = (col : Int) + (Int.ofNat c' - 1))
    fun r' _ c' _ => Paints.setI _ _ _ ?_).congr ?_ (fun _ _ _ _ _ => rfl)
  · intro r c _ _ h1 h2
    have e1 : (r : Int) - row = Int.ofNat r' - 1 := by omega
    have e2 : (c : Int) - col = Int.ofNat c' - 1 := by omega
    rw [e1, e2]
  · intro r c _ _
    simp only [List.mem_range, inProbeWindow, Int.ofNat_eq_natCast]
    constructor
    · rintro ⟨h1, h2, h3, h4⟩
      exact ⟨r + 1 - row, by omega, c + 1 - col, by omega, by omega, by omega⟩
    · rintro ⟨r', h1, c', h2, h3, h4⟩
      exact ⟨by omega, by omega, by omega, by omega⟩

theorem matShape_setupProbe {n : Nat} {m : Mat} (hm : MatShape m n) (row col : Nat) :
    MatShape (setupProbe n m row col) n := (paints_setupProbe n row col).shape hm

theorem get_setupProbe {n : Nat} {m : Mat} (hm : MatShape m n) (row col : Nat) {r c : Nat} (hr : r < n) (hc : c < n) :
    (setupProbe n m row col).get r c =
      if inProbeWindow row col r c then some (probeDark ((r : Int) - row) ((c : Int) - col)) else m.get r c :=
  (paints_setupProbe n row col).get_ite hm hr hc

theorem inProbeWindow_iff_cheb (row col r c : Nat) :
    inProbeWindow row col r c ↔ Spec.cheb r c (row + 3) (col + 3) ≤ 4 := by
  rw [Spec.cheb_le_iff]; unfold inProbeWindow; omega

/-- a distance is `k + 1` iff it is at most `k + 1` and not at most `k`: turns the ring tests into inequalities (`cheb_le_iff`) -/
theorem eq_succ_iff_le (d k : Nat) : d = k + 1 ↔ d ≤ k + 1 ∧ ¬ d ≤ k := by omega

/-- the three-clause test draws the rings of the ISO finder pattern: Chebyshev distance 0, 1, 3 from the centre dark,
    2 and 4 (separator) light -/
theorem probeDark_eq_cheb (row col r c : Nat) (h : inProbeWindow row col r c) :
    probeDark ((r : Int) - row) ((c : Int) - col) =
      (let d := Spec.cheb r c (row + 3) (col + 3); decide (d ≤ 1) || d == 3) := by
  rw [Bool.eq_iff_iff]
  simp only [probeDark, decide_eq_true_eq, Bool.or_eq_true, beq_iff_eq, eq_succ_iff_le _ 2, Spec.cheb_le_iff]
  unfold inProbeWindow at h
  omega

def IsCorner (n row col : Nat) : Prop := (row = 0 ∧ col = 0) ∨ (row = n - 7 ∧ col = 0) ∨ (row = 0 ∧ col = n - 7)

/-- inside the window of one corner the code's colour is the Spec's `finderColour` (the other two finder centres are
    too far away to contribute) -/
theorem probeDark_eq_finderColour {n row col r c : Nat} (hn : 21 ≤ n) (hk : IsCorner n row col)
    (hr : r < n) (hc : c < n) (h : inProbeWindow row col r c) :
    probeDark ((r : Int) - row) ((c : Int) - col) = Spec.finderColour n r c := by
  rw [probeDark_eq_cheb row col r c h, Bool.eq_iff_iff, Spec.finderColour_iff]
  simp only [decide_eq_true_eq, Bool.or_eq_true, beq_iff_eq]
  -- a centre further than 4 away contributes no ring
  have far : ∀ {d : Nat}, ¬ d ≤ 4 → ¬ (d ≤ 1 ∨ d = 3) := by omega
  have hw := (inProbeWindow_iff_cheb row col r c).1 h
  have e : n - 7 + 3 = n - 4 := by omega
  rcases hk with ⟨rfl, rfl⟩ | ⟨rfl, rfl⟩ | ⟨rfl, rfl⟩
  · simp only [Nat.zero_add] at hw ⊢
    have n2 : ¬ Spec.cheb r c 3 (n - 4) ≤ 4 := by rw [Spec.cheb_le_iff] at hw ⊢; omega
    have n3 : ¬ Spec.cheb r c (n - 4) 3 ≤ 4 := by rw [Spec.cheb_le_iff] at hw ⊢; omega
    simp only [far n2, far n3, or_false]
  · simp only [Nat.zero_add, e] at hw ⊢
    have n1 : ¬ Spec.cheb r c 3 3 ≤ 4 := by rw [Spec.cheb_le_iff] at hw ⊢; omega
    have n2 : ¬ Spec.cheb r c 3 (n - 4) ≤ 4 := by rw [Spec.cheb_le_iff] at hw ⊢; omega
    simp only [far n1, far n2, false_or]
  · simp only [Nat.zero_add, e] at hw ⊢
    have n1 : ¬ Spec.cheb r c 3 3 ≤ 4 := by rw [Spec.cheb_le_iff] at hw ⊢; omega
    have n3 : ¬ Spec.cheb r c (n - 4) 3 ≤ 4 := by rw [Spec.cheb_le_iff] at hw ⊢; omega
    simp only [far n1, far n3, false_or, or_false]

theorem inFinderArea_iff_windows {n r c : Nat} (hn : 21 ≤ n) :
    Spec.inFinderArea n r c = true ↔
      (inProbeWindow 0 0 r c ∨ inProbeWindow (n - 7) 0 r c) ∨ inProbeWindow 0 (n - 7) r c := by
  rw [Spec.inFinderArea_iff]
  simp only [inProbeWindow_iff_cheb, Nat.zero_add, show n - 7 + 3 = n - 4 by omega]
  rw [or_assoc, or_comm (a := Spec.cheb r c (n - 4) 3 ≤ 4)]

theorem paints_setupProbe_spec {n row col : Nat} (hn : 21 ≤ n) (hk : IsCorner n row col) :
    Paints n (fun m => setupProbe n m row col) (fun r c => Spec.cheb r c (row + 3) (col + 3) ≤ 4)
      (fun r c => some (Spec.finderColour n r c)) :=
  (paints_setupProbe n row col).congr
    (fun r c _ _ => (inProbeWindow_iff_cheb row col r c).symm)
    (fun r c hr hc h => by rw [probeDark_eq_finderColour hn hk hr hc h])

/-- the three calls of `setup_position_probe_pattern` in `makeImpl` -/
def setupFinders (n : Nat) (m : Mat) : Mat :=
  setupProbe n (setupProbe n (setupProbe n m 0 0) (n - 7) 0) 0 (n - 7)

theorem paints_setupFinders {n : Nat} (hn : 21 ≤ n) :
    Paints n (setupFinders n) (fun r c => Spec.inFinderArea n r c = true)
      (fun r c => some (Spec.finderColour n r c)) := by
  have h1 := paints_setupProbe_spec (row := 0) (col := 0) hn (Or.inl ⟨rfl, rfl⟩)
  have h2 := paints_setupProbe_spec (row := n - 7) (col := 0) hn (Or.inr (Or.inl ⟨rfl, rfl⟩))
  have h3 := paints_setupProbe_spec (row := 0) (col := n - 7) hn (Or.inr (Or.inr ⟨rfl, rfl⟩))
  refine ((h1.comp h2).comp h3).congr ?_ (fun _ _ _ _ _ => rfl)
  intro r c _ _
  rw [inFinderArea_iff_windows hn]
  simp only [inProbeWindow_iff_cheb]

/-! ### alignment patterns: a loop that draws a 5x5 pattern only where the centre cell is still `None` -/

/-- ring colours of an alignment pattern centred at (row, col): Chebyshev distance 0 and 2 dark, 1 light -/
def alignDark (row col r c : Nat) : Bool :=
  let d := Spec.cheb r c row col; d == 0 || d == 2

/-- the 5x5 drawing loop of `setup_position_adjust_pattern` overwrites exactly the cells within Chebyshev distance 2
    of the centre with the ring colours -/
theorem paints_drawAlign (n : Nat) {row col : Nat} (h2r : 2 ≤ row) (h2c : 2 ≤ col) :
    Paints n (fun m => drawAlign m row col) (fun r c => Spec.cheb r c row col ≤ 2)
      (fun r c => some (alignDark row col r c)) := by
  refine (Paints.foldl₂ (List.range 5) (List.range 5)
    (f := fun m (r' c' : Nat) => m.set (row + r' - 2) (col + c' - 2)
      (some (decide (r' = 0 ∨ r' = 4 ∨ c' = 0 ∨ c' = 4 ∨ (r' = 2 ∧ c' = 2)))))
    (P := fun r' c' r c => r = row + r' - 2 ∧ c = col + c' - 2)
    fun r' hr' c' hc' => Paints.set _ _ _ fun _ _ => ?_).congr ?_ (fun _ _ _ _ _ => rfl)
  · -- the ring test on the offsets, as inequalities
    have hr' := List.mem_range.mp hr'
    have hc' := List.mem_range.mp hc'
    have z : ∀ d : Nat, d = 0 ↔ d ≤ 0 := fun d => Nat.le_zero.symm
    simp only [alignDark, Option.some.injEq]
    rw [Bool.eq_iff_iff]
    simp only [Bool.or_eq_true, beq_iff_eq, decide_eq_true_eq, z, eq_succ_iff_le _ 1, Spec.cheb_le_iff]
    omega
  · intro r c _ _
    simp only [List.mem_range, Spec.cheb_le_iff]
    constructor
    · rintro ⟨h1, h2, h3, h4⟩
      exact ⟨r + 2 - row, by omega, c + 2 - col, by omega, by omega, by omega⟩
    · rintro ⟨r', h1, c', h2, h3, h4⟩
      exact ⟨by omega, by omega, by omega, by omega⟩

theorem get_drawAlign {n : Nat} {m : Mat} (hm : MatShape m n) {row col : Nat} (h2r : 2 ≤ row) (h2c : 2 ≤ col)
    {r c : Nat} (hr : r < n) (hc : c < n) :
    (drawAlign m row col).get r c =
      if Spec.cheb r c row col ≤ 2 then some (alignDark row col r c) else m.get r c :=
  (paints_drawAlign n h2r h2c).get_ite hm hr hc

/-- one iteration of the double loop of `setup_position_adjust_pattern` -/
def adjStep (m : Mat) (p : Nat × Nat) : Mat :=
  if (m.get p.1 p.2).isSome then m else drawAlign m p.1 p.2

theorem setupAdjust_eq_foldl (m : Mat) (pos : List Nat) :
    setupAdjust m pos = (pos.flatMap fun row => pos.map fun col => (row, col)).foldl adjStep m := by
  unfold setupAdjust
  rw [List.foldl_flatMap]
  simp only [List.foldl_map]
  rfl

/-- The loop over candidate centres `S`, started on `m`.  If any two distinct candidates are at Chebyshev distance ≥ 5
    (so neither a centre nor any cell of a window lies in another candidate's window), then exactly the candidates
    whose centre cell is `None` in the *initial* matrix are drawn, each in full, and nothing else changes. -/
theorem adjust_foldl (n : Nat) (S : List (Nat × Nat))
    (hS : ∀ p ∈ S, 2 ≤ p.1 ∧ 2 ≤ p.2 ∧ p.1 < n ∧ p.2 < n)
    (hfar : ∀ p ∈ S, ∀ q ∈ S, p = q ∨ ¬ Spec.cheb p.1 p.2 q.1 q.2 ≤ 4) :
    ∀ m, MatShape m n → MatShape (S.foldl adjStep m) n ∧ ∀ r c, r < n → c < n →
      (∀ q ∈ S, m.get q.1 q.2 = none → Spec.cheb r c q.1 q.2 ≤ 2 →
          (S.foldl adjStep m).get r c = some (alignDark q.1 q.2 r c)) ∧
      ((∀ q ∈ S, m.get q.1 q.2 = none → ¬ Spec.cheb r c q.1 q.2 ≤ 2) →
          (S.foldl adjStep m).get r c = m.get r c) := by
  induction S with
  | nil => intro m hm; exact ⟨hm, fun r c _ _ => ⟨fun q hq => by simp at hq, fun _ => rfl⟩⟩
  | cons p S ih =>
    have ih := ih (fun q hq => hS q (by simp [hq])) (fun a ha b hb => hfar a (by simp [ha]) b (by simp [hb]))
    obtain ⟨hp1, hp2, hp3, hp4⟩ := hS p (by simp)
    intro m hm
    simp only [List.foldl_cons]
    by_cases hsome : (m.get p.1 p.2).isSome
    · -- centre already occupied: skipped
      have e : adjStep m p = m := by simp [adjStep, hsome]
      rw [e]
      obtain ⟨hm2, hget2⟩ := ih m hm
      refine ⟨hm2, fun r c hr hc => ⟨fun q hq hnone hwin => ?_, fun hno => ?_⟩⟩
      · rcases List.mem_cons.1 hq with rfl | hq
        · rw [hnone] at hsome; simp at hsome
        · exact (hget2 r c hr hc).1 q hq hnone hwin
      · exact (hget2 r c hr hc).2 (fun q hq => hno q (by simp [hq]))
    · -- centre free: drawn
      have hpnone : m.get p.1 p.2 = none := by simpa using hsome
      have e : adjStep m p = drawAlign m p.1 p.2 := by simp [adjStep, hsome]
      rw [e]
      have hd := paints_drawAlign n hp1 hp2
      have hm1 : MatShape (drawAlign m p.1 p.2) n := hd.shape hm
      obtain ⟨hm2, hget2⟩ := ih _ hm1
      -- the centre of p is now occupied
      have hpc : (drawAlign m p.1 p.2).get p.1 p.2 ≠ none := by
        rw [hd.get_in hm hp3 hp4 (Spec.cheb_self ..)]; simp
      -- other candidates' centres are untouched
      have hother : ∀ q ∈ S, q ≠ p → (drawAlign m p.1 p.2).get q.1 q.2 = m.get q.1 q.2 := by
        intro q hq hne
        obtain ⟨_, _, hq3, hq4⟩ := hS q (by simp [hq])
        have := (hfar p (by simp) q (by simp [hq])).resolve_left (fun h => hne h.symm)
        exact hd.get_out hm hq3 hq4 fun h => this (Spec.cheb_triangle h (Spec.cheb_self q.1 q.2 2))
      refine ⟨hm2, fun r c hr hc => ⟨fun q hq hnone hwin => ?_, fun hno => ?_⟩⟩
      · by_cases hqp : q = p
        · subst hqp
          rw [(hget2 r c hr hc).2 ?_]
          · exact hd.get_in hm hr hc hwin
          · intro q' hq' hnone' hwin'
            by_cases hq'p : q' = q
            · subst hq'p; exact hpc hnone'
            · exact (hfar q (by simp) q' (by simp [hq'])).resolve_left (fun h => hq'p h.symm)
                (Spec.cheb_triangle hwin hwin')
        · have hq' : q ∈ S := by
            rcases List.mem_cons.1 hq with h | h
            · exact (hqp h).elim
            · exact h
          exact (hget2 r c hr hc).1 q hq' (by rw [hother q hq' hqp]; exact hnone) hwin
      · have hnp : ¬ Spec.cheb r c p.1 p.2 ≤ 2 := hno p (by simp) hpnone
        rw [(hget2 r c hr hc).2 ?_]
        · exact hd.get_out hm hr hc hnp
        · intro q' hq' hnone'
          by_cases hq'p : q' = p
          · subst hq'p; exact (hpc hnone').elim
          · exact hno q' (by simp [hq']) (by rw [← hother q' hq' hq'p]; exact hnone')

/-- What the proof needs to know about a row `pos` of the alignment table for an n x n symbol: every coordinate is 6,
    n-7 or at least 6 away from both, and two different coordinates are at least 6 apart.  (Implied by: strictly
    increasing with gaps ≥ 6, first entry 6, last entry n-7 - see `AlignOK.of_sorted`.) -/
structure AlignOK (n : Nat) (pos : List Nat) : Prop where
  mem : ∀ a ∈ pos, a = 6 ∨ a + 7 = n ∨ (12 ≤ a ∧ a + 13 ≤ n)
  gap : ∀ a ∈ pos, ∀ b ∈ pos, a = b ∨ a + 6 ≤ b ∨ b + 6 ≤ a

theorem AlignOK.of_sorted {n : Nat} {pos : List Nat} (hs : pos.Pairwise (fun a b => a + 6 ≤ b))
    (hh : ∀ a, pos.head? = some a → a = 6) (hl : ∀ a, pos.getLast? = some a → a + 7 = n) : AlignOK n pos := by
  rw [List.pairwise_iff_getElem] at hs
  -- members by index: `i < j` gives `pos[i] + 6 ≤ pos[j]`; index 0 holds 6, the last index holds n - 7
  refine ⟨fun a ha => ?_, fun a ha b hb => ?_⟩
  · obtain ⟨i, hi, rfl⟩ := List.mem_iff_getElem.mp ha
    have h0 : pos[0] = 6 := hh _ (by rw [List.head?_eq_getElem?, List.getElem?_eq_getElem])
    have hz : pos[pos.length - 1] + 7 = n :=
      hl _ (by rw [List.getLast?_eq_getElem?, List.getElem?_eq_getElem])
    have hfirst : pos[i] = 6 ∨ 12 ≤ pos[i] := by
      by_cases e : i = 0
      · subst e; exact Or.inl h0
      · have := hs 0 i (by omega) hi (by omega); omega
    have hlast : pos[i] + 7 = n ∨ pos[i] + 13 ≤ n := by
      by_cases e : i = pos.length - 1
      · subst e; exact Or.inl hz
      · have := hs i (pos.length - 1) hi (by omega) (by omega); omega
    omega
  · obtain ⟨i, hi, rfl⟩ := List.mem_iff_getElem.mp ha
    obtain ⟨j, hj, rfl⟩ := List.mem_iff_getElem.mp hb
    rcases Nat.lt_trichotomy i j with h | rfl | h
    · exact Or.inr (Or.inl (hs i j hi hj h))
    · exact Or.inl rfl
    · exact Or.inr (Or.inr (hs j i hj hi h))

theorem AlignOK.mem_edge {n : Nat} {pos : List Nat} (hn : 21 ≤ n) (h : AlignOK n pos) {a : Nat} (ha : a ∈ pos) :
    a < n ∧ (a ≤ 7 ↔ a = 6) ∧ (n ≤ a + 8 ↔ a + 7 = n) := by
  have := h.mem a ha
  omega

theorem AlignOK.inFinder_iff {n : Nat} {pos : List Nat} (hn : 21 ≤ n) (h : AlignOK n pos) {a b : Nat}
    (ha : a ∈ pos) (hb : b ∈ pos) : Spec.inFinderArea n a b = true ↔ Excluded n a b := by
  obtain ⟨ha0, ha1, ha2⟩ := h.mem_edge hn ha
  obtain ⟨hb0, hb1, hb2⟩ := h.mem_edge hn hb
  rw [inFinderArea_iff_lin hn ha0 hb0, ha1, ha2, hb1, hb2]
  rfl

theorem AlignOK.window_not_finder {n : Nat} {pos : List Nat} (hn : 21 ≤ n) (h : AlignOK n pos) {a b r c : Nat}
    (ha : a ∈ pos) (hb : b ∈ pos) (hx : ¬ Excluded n a b) (hr : r < n) (hc : c < n)
    (hw : Spec.cheb r c a b ≤ 2) : Spec.inFinderArea n r c = false := by
  have h1 := h.mem a ha
  have h2 := h.mem b hb
  rw [← Bool.not_eq_true, inFinderArea_iff_lin hn hr hc]
  rw [Spec.cheb_le_iff] at hw
  unfold Excluded at hx
  omega

/-- `setup_position_adjust_pattern()` on a matrix whose occupied cells are exactly the finder area: every pair of table
    coordinates except the three excluded ones gets a complete alignment pattern; nothing else changes; the
    patterns do not touch the finder area. -/
theorem setupAdjust_spec {n : Nat} (hn : 21 ≤ n) {pos : List Nat} (hpos : AlignOK n pos) {m : Mat} (hm : MatShape m n)
    (hfin : ∀ r c, r < n → c < n → (m.get r c = none ↔ Spec.inFinderArea n r c = false)) :
    MatShape (setupAdjust m pos) n ∧ ∀ r c, r < n → c < n →
      (∀ r0 ∈ pos, ∀ c0 ∈ pos, ¬ Excluded n r0 c0 → Spec.cheb r c r0 c0 ≤ 2 →
          (setupAdjust m pos).get r c = some (alignDark r0 c0 r c)) ∧
      ((∀ r0 ∈ pos, ∀ c0 ∈ pos, ¬ Excluded n r0 c0 → ¬ Spec.cheb r c r0 c0 ≤ 2) →
          (setupAdjust m pos).get r c = m.get r c) := by
  rw [setupAdjust_eq_foldl]
  have hmem : ∀ p : Nat × Nat, p ∈ (pos.flatMap fun row => pos.map fun col => (row, col)) ↔
      p.1 ∈ pos ∧ p.2 ∈ pos := by
    intro p
    simp only [List.mem_flatMap, List.mem_map]
    constructor
    · rintro ⟨a, ha, b, hb, rfl⟩; exact ⟨ha, hb⟩
    · rintro ⟨ha, hb⟩; exact ⟨p.1, ha, p.2, hb, rfl⟩
  have hrange : ∀ a ∈ pos, 2 ≤ a ∧ a < n := fun a ha => by have := hpos.mem a ha; omega
  have hnone : ∀ a ∈ pos, ∀ b ∈ pos, (m.get a b = none ↔ ¬ Excluded n a b) := by
    intro a ha b hb
    rw [hfin a b (hrange a ha).2 (hrange b hb).2, ← hpos.inFinder_iff hn ha hb]
    simp
  obtain ⟨hm2, hget2⟩ := adjust_foldl n _
    (fun p hp => by
      obtain ⟨h1, h2⟩ := (hmem p).1 hp
      exact ⟨(hrange _ h1).1, (hrange _ h2).1, (hrange _ h1).2, (hrange _ h2).2⟩)
    (fun p hp q hq => by
      obtain ⟨h1, h2⟩ := (hmem p).1 hp
      obtain ⟨h3, h4⟩ := (hmem q).1 hq
      have g1 := hpos.gap _ h1 _ h3
      have g2 := hpos.gap _ h2 _ h4
      by_cases e1 : p.1 = q.1
      · by_cases e2 : p.2 = q.2
        · exact Or.inl (Prod.ext e1 e2)
        · right; rw [Spec.cheb_le_iff]; omega
      · right; rw [Spec.cheb_le_iff]; omega)
    m hm
  refine ⟨hm2, fun r c hr hc => ⟨fun r0 hr0 c0 hc0 hx hw => ?_, fun hno => ?_⟩⟩
  · exact (hget2 r c hr hc).1 (r0, c0) ((hmem _).2 ⟨hr0, hc0⟩) ((hnone r0 hr0 c0 hc0).2 hx) hw
  · refine (hget2 r c hr hc).2 (fun q hq hqn => ?_)
    obtain ⟨h1, h2⟩ := (hmem q).1 hq
    exact hno q.1 h1 q.2 h2 ((hnone _ h1 _ h2).1 hqn)

/-! ### timing patterns: a loop that writes only cells that are still `None` -/

/-- `if modules[p] is None: modules[p] = g p` -/
def fillStep (g : Nat → Nat → Bool) (m : Mat) (p : Nat × Nat) : Mat :=
  if (m.get p.1 p.2).isSome then m else m.set p.1 p.2 (some (g p.1 p.2))

theorem fill_foldl (n : Nat) (g : Nat → Nat → Bool) (l : List (Nat × Nat)) :
    ∀ m, MatShape m n → MatShape (l.foldl (fillStep g) m) n ∧ ∀ r c, r < n → c < n →
      (l.foldl (fillStep g) m).get r c = if m.get r c = none ∧ (r, c) ∈ l then some (g r c) else m.get r c := by
  induction l with
  | nil => intro m hm; exact ⟨hm, fun r c _ _ => by simp⟩
  | cons p l ih =>
    intro m hm
    simp only [List.foldl_cons]
    have step : MatShape (fillStep g m p) n ∧ ∀ r c, r < n → c < n →
        (fillStep g m p).get r c = if m.get r c = none ∧ (r, c) = p then some (g r c) else m.get r c := by
      unfold fillStep
      split
      · next hs =>
        refine ⟨hm, fun r c _ _ => ?_⟩
        by_cases hc : (r, c) = p
        · rw [← hc] at hs
          have : m.get r c ≠ none := by intro h; simp [h] at hs
          simp [this]
        · simp [hc]
      · next hs =>
        refine ⟨matShape_set hm, fun r c hr hc => ?_⟩
        rw [Mat.get_set_in hm hr hc]
        by_cases hcell : (r, c) = p
        · rw [← hcell] at hs ⊢
          have : m.get r c = none := by simpa using hs
          simp [this]
        · have : ¬ (r = p.1 ∧ c = p.2) := by
            rintro ⟨rfl, rfl⟩; exact hcell rfl
          simp [hcell, this]
    obtain ⟨hm1, hget1⟩ := step
    obtain ⟨hm2, hget2⟩ := ih (fillStep g m p) hm1
    refine ⟨hm2, fun r c hr hc => ?_⟩
    rw [hget2 r c hr hc, hget1 r c hr hc]
    by_cases hnone : m.get r c = none
    · by_cases hi : (r, c) = p
      · simp [hnone, hi]
      · simp [hnone, hi]
    · simp [hnone]

/-- `setup_timing_pattern()` visits column 6, then row 6, indices 8..n-9 -/
theorem setupTiming_eq_foldl (n : Nat) (m : Mat) :
    setupTiming n m = (((List.range (n - 16)).map fun k => (k + 8, 6)) ++ (List.range (n - 16)).map fun k => (6, k + 8)).foldl
      (fillStep fun r c => decide ((r + c) % 2 = 0)) m := by
  -- on column 6 / row 6 the parity of the index is the parity of `r + c`
  have par : ∀ k : Nat, decide ((k + 8 + 6) % 2 = 0) = decide ((k + 8) % 2 = 0) ∧
      decide ((6 + (k + 8)) % 2 = 0) = decide ((k + 8) % 2 = 0) := fun k => by
    simp only [decide_eq_decide]; omega
  rw [List.foldl_append, List.foldl_map, List.foldl_map]
  simp only [setupTiming, fillStep, par]

/-- `setup_timing_pattern()`: row 6 and column 6, indices 8..n-9, only cells still `None`, even index dark -/
theorem setupTiming_spec {n : Nat} {m : Mat} (hm : MatShape m n) :
    MatShape (setupTiming n m) n ∧ ∀ r c, r < n → c < n →
      (setupTiming n m).get r c =
        if m.get r c = none ∧ ((c = 6 ∧ 8 ≤ r ∧ r + 8 < n) ∨ (r = 6 ∧ 8 ≤ c ∧ c + 8 < n))
        then some (decide ((r + c) % 2 = 0)) else m.get r c := by
  rw [setupTiming_eq_foldl]
  obtain ⟨hm1, hget1⟩ := fill_foldl n _ _ m hm
  refine ⟨hm1, fun r c hr hc => ?_⟩
  rw [hget1 r c hr hc]
  have e : (r, c) ∈ ((List.range (n - 16)).map fun k => (k + 8, 6)) ++ (List.range (n - 16)).map (fun k => (6, k + 8)) ↔
      (c = 6 ∧ 8 ≤ r ∧ r + 8 < n) ∨ (r = 6 ∧ 8 ≤ c ∧ c + 8 < n) := by
    simp only [List.mem_append, List.mem_map, List.mem_range, Prod.mk.injEq]
    refine or_congr ⟨?_, ?_⟩ ⟨?_, ?_⟩
    · rintro ⟨i, h1, h2, h3⟩; omega
    · rintro ⟨h1, h2, h3⟩; exact ⟨r - 8, by omega, by omega, h1.symm⟩
    · rintro ⟨i, h1, h2, h3⟩; omega
    · rintro ⟨h1, h2, h3⟩; exact ⟨c - 8, by omega, h1.symm, by omega⟩
  simp only [e]

/-! ### the blank of version `v`: the three writers on the empty matrix, at the Annex E centres -/

theorem alignOK_table (v : Nat) (h1 : 1 ≤ v) (h40 : v ≤ 40) : AlignOK (4 * v + 17) (Spec.alignmentCentres v) := by
  rcases Nat.lt_or_ge v 2 with h | h2
  · obtain rfl : v = 1 := by omega
    exact ⟨fun a ha => (nomatch ha), fun a ha => (nomatch ha)⟩
  · obtain ⟨mid, hcs, _⟩ := alignmentCentres_shape v h2
    have hs := alignmentCentres_sorted v h40 h1
    rw [hcs] at hs ⊢
    refine AlignOK.of_sorted (hs.imp fun h => Nat.le_of_succ_le h) (fun a h => (Option.some.inj h).symm) fun a h => ?_
    rw [← List.cons_append, List.getLast?_concat] at h
    rw [← Option.some.inj h]
    unfold Spec.size
    omega

/-- `PATTERN_POSITION_TABLE` is the Annex E closed form (finite check on the 40 rows; `Props.C05_alignment`) -/
theorem patternPosition_eq (v : Nat) (h1 : 1 ≤ v) (h40 : v ≤ 40) :
    Model.patternPosition v = .ok (Spec.alignmentCentres v) := by
  have h : (List.range 40).all (fun v =>
      (Model.patternPosition (v + 1)).toOption == some (Spec.alignmentCentres (v + 1))) = true := by decide +kernel
  have := forall_lt_of_all h (v - 1) (by omega)
  rw [show v - 1 + 1 = v by omega] at this
  exact R.eq_ok_of_toOption (eq_of_beq this)

theorem blank_eq (v : Nat) (h1 : 1 ≤ v) (h40 : v ≤ 40) :
    Model.blank v = .ok (setupTiming (Spec.size v)
      (setupAdjust (setupFinders (Spec.size v) (Mat.empty (Spec.size v))) (Spec.alignmentCentres v))) := by
  unfold Model.blank
  simp only [Spec.size_eq, patternPosition_eq v h1 h40]
  rfl

/-- for every version 1..40 the cached blank matrix exists, is size x size, and each of its cells is exactly
    what the ISO geometry prescribes: finder patterns + separators, alignment patterns at the Annex E centres, timing
    patterns, and `None` everywhere else. -/
theorem blank_spec (v : Nat) (h1 : 1 ≤ v) (h40 : v ≤ 40) :
    ∃ B, Model.blank v = .ok B ∧ MatShape B (Spec.size v) ∧
      ∀ r c, r < Spec.size v → c < Spec.size v → B.get r c = Spec.blankCell v r c := by
  refine ⟨_, blank_eq v h1 h40, ?_⟩
  have hn := Spec.size_ge h1
  have hsz : Spec.size v = 4 * v + 17 := rfl
  generalize hN : Spec.size v = n at hn hsz ⊢
  have hpos : AlignOK n (Spec.alignmentCentres v) := by rw [hsz]; exact alignOK_table v h1 h40
  have hF := paints_setupFinders hn
  have hm3 : MatShape (setupFinders n (Mat.empty n)) n := hF.shape (matShape_empty n)
  have hget3 : ∀ r c, r < n → c < n → (setupFinders n (Mat.empty n)).get r c =
      if Spec.inFinderArea n r c = true then some (Spec.finderColour n r c) else none := by
    intro r c hr hc
    rw [hF.get_ite (matShape_empty n) hr hc, Mat.get_empty]
  obtain ⟨hm4, hget4⟩ := setupAdjust_spec hn hpos hm3 (fun r c hr hc => by
    rw [hget3 r c hr hc]
    by_cases hf : Spec.inFinderArea n r c = true <;> simp [hf])
  obtain ⟨hm5, hget5⟩ := setupTiming_spec hm4
  refine ⟨hm5, fun r c hr hc => ?_⟩
  rw [hget5 r c hr hc]
  unfold Spec.blankCell
  simp only [hN]
  by_cases hf : Spec.inFinderArea n r c = true
  · -- finder area: no alignment window reaches it
    have h4 : (setupAdjust (setupFinders n (Mat.empty n)) (Spec.alignmentCentres v)).get r c =
        some (Spec.finderColour n r c) := by
      rw [(hget4 r c hr hc).2 ?_, hget3 r c hr hc, if_pos hf]
      intro r0 hr0 c0 hc0 hx hw
      have := hpos.window_not_finder hn hr0 hc0 hx hr hc hw
      rw [hf] at this; exact Bool.noConfusion this
    rw [h4, if_pos hf]; simp
  · rw [if_neg hf]
    cases ha : Spec.alignOf v r c with
    | some p =>
      obtain ⟨r0, c0⟩ := p
      obtain ⟨hr0, hc0, hw, hx⟩ := alignOf_some ha
      rw [← hsz] at hx
      have h4 := (hget4 r c hr hc).1 r0 hr0 c0 hc0 hx hw
      rw [h4]
      simp only [Spec.inAlignment, Spec.alignColour, ha, Option.isSome_some, if_true]
      simp [alignDark]
    | none =>
      have hno := alignOf_none ha
      rw [← hsz] at hno
      have h4 : (setupAdjust (setupFinders n (Mat.empty n)) (Spec.alignmentCentres v)).get r c = none := by
        rw [(hget4 r c hr hc).2 hno, hget3 r c hr hc, if_neg hf]
      rw [h4]
      simp only [Spec.inAlignment, ha, Option.isSome_none, Bool.false_eq_true, if_false, true_and]
      have hT := (inTiming_iff_lin hn hr hc).symm
      by_cases ht : Spec.inTiming n r c = true
      · rw [if_pos (hT.2 ht), if_pos ht]
        simp only [Spec.timingColour, Option.some.injEq]
        rw [Bool.eq_iff_iff]; simp
      · rw [if_neg (fun h => ht (hT.1 h)), if_neg ht]

end QR
