import QR.Model.Svg
import QR.Proofs.Lists
/-
C13 "units": the text `SvgFragmentImage.units` produces denotes exactly the value quantised (half-even) to 0.001 mm.
A strict reader `parseThousandths` for decimal literals with at most three decimals is defined here, independent of the
printer, and shown to be a left inverse of `fmtThousandths`.
-/
namespace QR.Proofs.Units
open QR.Model

/-- read a run of decimal digits (most significant first) onto an accumulator; `none` on any other character -/
def parseNat : List Char → Nat → Option Nat
  | [], acc => some acc
  | c :: cs, acc => if c.isDigit then parseNat cs (10 * acc + (c.toNat - 48)) else none

/-- strict reader for `digits` or `digits.d`, `digits.dd`, `digits.ddd`: the value in thousandths.  The whole part must
be a non-empty run of digits; a point must be followed by one to three digits; anything else is rejected. -/
def parseChars (cs : List Char) : Option Nat :=
  let w := cs.takeWhile (· != '.')
  let r := cs.dropWhile (· != '.')
  if w = [] then none else
  match parseNat w 0 with
  | none => none
  | some W =>
    match r with
    | [] => some (1000 * W)
    | _ :: ds =>
      if ds = [] ∨ 3 < ds.length then none
      else (parseNat ds 0).map fun f => 1000 * W + f * 10 ^ (3 - ds.length)

def parseThousandths (s : String) : Option Nat := parseChars s.toList

example : parseThousandths "12.5" = some 12500 := by decide
example : parseThousandths "0.001" = some 1 := by decide
example : parseThousandths "7" = some 7000 := by decide
example : parseThousandths "7." = none := by decide
example : parseThousandths ".5" = none := by decide
example : parseThousandths "1.2345" = none := by decide
example : parseThousandths "1.2.3" = none := by decide
example : parseThousandths "1a" = none := by decide

theorem parseNat_eq_ofDigitChars (ds : List Char) (acc : Nat) (h : ∀ c ∈ ds, c.isDigit = true) :
    parseNat ds acc = some (Nat.ofDigitChars 10 ds acc) := by
  induction ds generalizing acc with
  | nil => rfl
  | cons c cs ih =>
    have hc := h c (List.mem_cons_self)
    simp only [parseNat, hc, if_true, Nat.ofDigitChars_cons]
    exact ih _ (fun d hd => h d (List.mem_cons_of_mem _ hd))

theorem parseNat_toDigits (n : Nat) : parseNat (Nat.toDigits 10 n) 0 = some n := by
  rw [parseNat_eq_ofDigitChars _ _ (fun c hc => Nat.isDigit_of_mem_toDigits (by decide) (by decide) hc),
    Nat.ofDigitChars_ten_toDigits]

theorem isDigit_digitChar {d : Nat} (h : d < 10) : (Nat.digitChar d).isDigit = true := by
  revert d; decide

theorem parseNat_append (a b : List Char) (acc : Nat) :
    parseNat (a ++ b) acc = (parseNat a acc).bind (parseNat b) := by
  induction a generalizing acc with
  | nil => rfl
  | cons c cs ih =>
    simp only [List.cons_append, parseNat]
    split
    · exact ih _
    · rfl

theorem parseNat_digitsK (x k acc : Nat) :
    parseNat (digitsK x k) acc = some (10 ^ k * acc + x % 10 ^ k) := by
  induction k generalizing x acc with
  | zero => simp [digitsK, parseNat, Nat.mod_one]
  | succ k ih =>
    have hd : x % 10 < 10 := Nat.mod_lt _ (by decide)
    simp only [digitsK, parseNat_append, ih, Option.bind_some, parseNat, isDigit_digitChar hd, if_true,
      Nat.toNat_digitChar_sub_48_of_lt_ten hd]
    congr 1
    have h1 : x % 10 ^ (k + 1) = 10 * (x / 10 % 10 ^ k) + x % 10 := by
      rw [Nat.pow_succ, Nat.mul_comm, Nat.mod_mul]
      omega
    rw [h1, Nat.pow_succ]
    generalize 10 ^ k = p
    rw [Nat.mul_add, Nat.mul_comm p 10, Nat.mul_assoc]
    omega

theorem length_digitsK (x k : Nat) : (digitsK x k).length = k := by
  induction k generalizing x with
  | zero => rfl
  | succ k ih => simp [digitsK, ih]

theorem toDigits_no_point (n : Nat) : ∀ c ∈ Nat.toDigits 10 n, (c != '.') = true := by
  intro c hc
  have := Nat.isDigit_of_mem_toDigits (by decide) (by decide) hc
  rw [bne_iff_ne]; rintro rfl; exact absurd this (by decide)

theorem parse_whole (n : Nat) : parseThousandths (toString n) = some (1000 * n) := by
  rw [parseThousandths, Nat.toString_eq_repr, Nat.toList_repr]
  simp only [parseChars, takeWhile_of_all (toDigits_no_point n), dropWhile_of_all (toDigits_no_point n),
    Nat.toDigits_ne_nil, if_false, parseNat_toDigits]

theorem parse_frac (n x k : Nat) (hk : 0 < k) (hk3 : k ≤ 3) :
    parseThousandths (toString n ++ "." ++ String.ofList (digitsK x k)) = some (1000 * n + x % 10 ^ k * 10 ^ (3 - k)) := by
  have hne : digitsK x k ≠ [] := List.ne_nil_of_length_pos (by rw [length_digitsK]; exact hk)
  rw [parseThousandths, String.toList_append, String.toList_append, String.toList_ofList, String.toList_ofList,
    Nat.toString_eq_repr, Nat.toList_repr, List.append_assoc, List.singleton_append]
  -- the text splits at the point into the whole part `toDigits n`, which reads as `n`, and `'.' :: digitsK x k`
  simp only [parseChars, takeWhile_append_cons _ (toDigits_no_point n) (x := '.') rfl,
    dropWhile_append_cons _ (toDigits_no_point n) (x := '.') rfl, Nat.toDigits_ne_nil, if_false, parseNat_toDigits]
  -- `1 ≤ k ≤ 3` decimals pass the guard and read as `x % 10 ^ k`
  simp only [length_digitsK, hne, false_or, Nat.not_lt.mpr hk3, if_false, parseNat_digitsK, Option.map_some, Nat.mul_zero,
    Nat.zero_add]

/-- **the text denotes exactly the quantised value** -/
theorem parse_fmt (t : Nat) : parseThousandths (fmtThousandths t) = some t := by
  unfold fmtThousandths
  simp only []
  split
  · rw [parse_whole]; congr 1; omega
  · split
    · rw [parse_frac _ _ 1 (by decide) (by decide)]; congr 1; omega
    · split
      · rw [parse_frac _ _ 2 (by decide) (by decide)]; congr 1; omega
      · rw [parse_frac _ _ 3 (by decide) (by decide)]; congr 1; omega

theorem fmtThousandths_injective {a b : Nat} (h : fmtThousandths a = fmtThousandths b) : a = b := by
  have := parse_fmt a
  rw [h, parse_fmt] at this
  exact (Option.some.inj this).symm

/-- `units` texts are equal only for equal quantised values -/
theorem units_injective {n1 d1 n2 d2 : Nat} (h : units n1 d1 = units n2 d2) :
    roundHalfEven (100 * n1) d1 = roundHalfEven (100 * n2) d2 := by
  unfold units at h
  exact fmtThousandths_injective (String.append_left_inj _ |>.mp h)

end QR.Proofs.Units
