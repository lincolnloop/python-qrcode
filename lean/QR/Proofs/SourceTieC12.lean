import QR.Gen.Code
import QR.Model.Render
/-
Translation validation for C12, qrcode/image/pil.py: `PilImage.new_image` as translated from the AST into `QR.Gen.Code.pil_*`,
against `Model.pilMode` and `Model.pixelSize`.  (The other ties of C12 stand under `C12_source_*` in Props/C12; the tail of
`make_image`, shared with the SVG factories, is in SourceTieImage.lean.)
-/
namespace QR.SourceTieT
open QR.Model QR.Gen.Code

/-- a colour value as the Model sees it: the string, or `none` for anything that is not a str -/
def pilStrOf {α : Type} : pil_Val α → Option String
  | .str s => some s
  | _ => none

/-- a Model colour as a source value (`none` = some tuple) -/
def pilValOf : Option String → pil_Val Unit
  | some s => .str s
  | none => .other ()

private theorem eqStr_iff {α : Type} (v : pil_Val α) (t : String) : pil_Val.eqStr v t = true ↔ pilStrOf v = some t := by
  cases v <;> simp [pil_Val.eqStr, pilStrOf]

/-- **mode** `Model.pilMode` applied to the lower-cased colours (keyword argument or default) is the first argument of
    `Image.new` in the source; `lower` is Python's `str.lower`, arbitrary here -/
theorem pilMode_src {α : Type} (lower : String → String) (kwBack kwFill : Option (pil_Val α)) :
    pil_new_image_mode lower kwBack kwFill =
      pilMode (pilStrOf ((kwFill.getD (.str "black")).lowered lower)) (pilStrOf ((kwBack.getD (.str "white")).lowered lower)) := by
  simp only [pil_new_image_mode, pilMode, ← eqStr_iff, Bool.and_eq_true]

/-- the same in the Model's own vocabulary (`Option String`, `none` = a tuple): both keyword arguments given -/
theorem pilMode_given_src (lower : String → String) (fill back : Option String) :
    pilMode (fill.map lower) (back.map lower) = pil_new_image_mode lower (some (pilValOf back)) (some (pilValOf fill)) := by
  rw [pilMode_src]
  cases fill <;> cases back <;> rfl

/-- defaults: absent keyword arguments mean fill "black" on back "white" -/
theorem pilMode_default_src (lower : String → String) (fill back : Option String) :
    pil_new_image_mode (α := Unit) lower none none = pilMode (some (lower "black")) (some (lower "white")) ∧
    pil_new_image_mode lower none (some (pilValOf fill)) = pilMode (fill.map lower) (some (lower "white")) ∧
    pil_new_image_mode lower (some (pilValOf back)) none = pilMode (some (lower "black")) (back.map lower) := by
  refine ⟨pilMode_src _ _ _, ?_, ?_⟩
  · rw [pilMode_src]; cases fill <;> rfl
  · rw [pilMode_src]; cases back <;> rfl

/-- canvas size and the remaining statements -/
theorem pilNewImageRest_src (width border boxSize : Nat) :
    pil_new_image_size (pixelSize width border boxSize) = (pixelSize width border boxSize, pixelSize width border boxSize) ∧
    pil_new_image_guards = ["not Image"] ∧
    pil_new_image_rest = ["img = Image.new(mode, (self.pixel_size, self.pixel_size), back_color)", "self.fill_color = fill_color",
      "self._idr = ImageDraw.Draw(img)", "return img"] :=
  ⟨rfl, rfl, rfl⟩

end QR.SourceTieT
