import QR.Gen.Code
import QR.Model.Data
/-
Translation validation for C06 (as SourceTieC05.lean, which says why there is one file per property): the class boundaries of
`util.mode_sizes_for_version`, `util.check_version`, and the overflow test, terminator and pad bytes of `util.create_data`.
-/
namespace QR.SourceTie
open QR.Model QR.Gen.Code

/-- `util.mode_sizes_for_version`: class boundaries -/
theorem sizeClass_eq (v : Nat) : mode_size_class v = sizeClass v := by
  unfold mode_size_class sizeClass
  by_cases h1 : v < 10 <;> by_cases h2 : v < 27 <;> simp [h1, h2]

/-- `util.check_version` (also what the `version` setter runs): the translated test is the Model's -/
theorem check_version_bad_eq (x : Int) : check_version_bad x = decide (x < 1 ∨ x > 40) :=
  (Bool.decide_or _ _).symm

theorem checkVersion_eq (x : Int) : checkVersion x = if check_version_bad x then .error .valueError else .ok () := by
  rw [check_version_bad_eq, checkVersion]
  simp only [decide_eq_true_eq]

/-- `create_data`: overflow test, terminator length, pad alternation -/
theorem createData_pieces :
    (∀ len limit, overflow_test len limit = decide (len > limit)) ∧
    (∀ len limit, terminator_len len limit = min (limit - len) 4) ∧
    (∀ i, pad_first i = decide (i % 2 = 0)) ∧ pad_names = ("PAD0", "PAD1") :=
  ⟨fun _ _ => rfl, fun _ _ => rfl, fun _ => rfl, rfl⟩

/-- the pad loop written with the translated alternation test -/
theorem padBytes_eq (n : Nat) :
    padBytes n = (List.range n).flatMap fun i => bitsBE (if pad_first i then Gen.PAD0 else Gen.PAD1) 8 := by
  unfold padBytes pad_first
  congr 1
  funext i
  by_cases h : i % 2 = 0 <;> simp [h]

/-- `create_data` up to `create_bytes`, written with the overflow test and terminator length translated from the source -/
theorem dataBits_eq (version level : Nat) (segs : List Seg) :
    dataBits version level segs = (do
      let buffer ← segsBits (fun m => lengthInBits m version) segs
      let blocks ← rsBlocks version level
      let bitLimit := (blocks.map fun b => b.2 * 8).sum
      if overflow_test buffer.length bitLimit then .error .dataOverflow
      else
        let buffer := buffer ++ List.replicate (terminator_len buffer.length bitLimit) false
        let delimit := buffer.length % 8
        let buffer := if delimit ≠ 0 then buffer ++ List.replicate (8 - delimit) false else buffer
        let bytesToFill := (bitLimit - buffer.length) / 8
        pure (buffer ++ padBytes bytesToFill)) := by
  unfold dataBits overflow_test terminator_len
  simp only [decide_eq_true_eq]

end QR.SourceTie
