/-
Helpers to lift complete kernel enumerations (`decide +kernel` on a Bool) to ∀-statements, and the orbit of a point
under a map as a list (a table that is an orbit is compared with it in one pass).
-/
namespace QR

theorem forall_lt_of_all {n : Nat} {p : Nat → Bool} (h : (List.range n).all p = true) :
    ∀ i, i < n → p i = true := by
  intro i hi
  exact (List.all_eq_true.mp h) i (List.mem_range.mpr hi)

theorem forall_mem_of_all {α} {l : List α} {p : α → Bool} (h : l.all p = true) :
    ∀ x ∈ l, p x = true := List.all_eq_true.mp h

def orbit {α} (f : α → α) : Nat → α → List α
  | 0, _ => []
  | n + 1, a => a :: orbit f n (f a)

theorem getElem?_orbit {α} {f : α → α} {g : Nat → α} (hs : ∀ k, g (k + 1) = f (g k)) {n i : Nat} (h : i < n) :
    (orbit f n (g 0))[i]? = some (g i) := by
  induction n generalizing g i with
  | zero => omega
  | succ n ih =>
    cases i with
    | zero => rfl
    | succ i =>
      rw [orbit, List.getElem?_cons_succ, ← hs 0]
      exact ih (g := fun k => g (k + 1)) (fun k => hs (k + 1)) (by omega)

end QR
