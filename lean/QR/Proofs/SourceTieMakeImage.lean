import QR.Proofs.History
import QR.Proofs.SourceTieObject
/-
Translation validation (plugin `frag_d2.py`; SourceTieObject.lean has the rest of the object): `QRCode.make_image` (the
implementation), `QRCode.is_constrained`, `QRCode.active_with_neighbors`, as translated from the current Python AST into
`QR.Gen.Code.ob_make_image*`, `ob_is_constrained`, `ob_awn*`, against the Model's `step .makeImage` (with `checkBoxSize`,
`ensureMade`) and against closed forms over the matrix (`getD`), for what the Model has no function of its own (the draw
loop, the 3x3 neighbourhood).
-/
namespace QR.SourceTieD2
open QR.Model QR.Gen.Code

/-! ### `make_image` up to the factory call -/

/-- `self.make()` as `make_image` calls it (no argument: `fit=True`), through the Model's `makeS true` -/
def makeOb {F : Type} (fac : Option F) :
    Global × ob_QR Seg (List Nat) F → (Global × ob_QR Seg (List Nat) F) × Except String Unit :=
  fun p => (((makeS true (p.1, ofOb p.2)).1.1, toOb fac (makeS true (p.1, ofOb p.2)).1.2), liftR (makeS true (p.1, ofOb p.2)).2)

/-- the class `make_image` instantiates: the argument if given, else the object's `image_factory`, else `PilImage` if PIL
    can be imported (`Image` truthy), else `PyPNGImage` -/
def chosenFactory {F : Type} (Image : Bool) (PilImage PyPNGImage : F) (fac arg : Option F) : F :=
  match arg with
  | some f => f
  | none => match fac with
    | some f => f
    | none => if Image then PilImage else PyPNGImage

/-- the factory selection, the call of the class and the draw loops, on any object -/
theorem make_image_rest_src {D C F K W : Type} (issub : F → Bool) (Image : Bool) (PilImage PyPNGImage : F)
    (nd nc np : F → Bool) (w : W) (o : ob_QR D C F) (arg : Option F) (kwargs : List (String × K))
    (hf : ∀ f, arg = some f → issub f = true) :
    ob_make_image_rest issub Image PilImage PyPNGImage nd nc np w o arg kwargs =
      (let im : ob_Call F K :=
         { cls := chosenFactory Image PilImage PyPNGImage o.image_factory arg,
           pos := [o._border, (o.modules_count : Int), o.box_size], kw := [("qrcode_modules", o.modules)], star := kwargs }
       ((w, o), .ok (im, ob_make_image_draw nd nc np o im))) := by
  rcases arg with _ | f
  · rcases h : o.image_factory with _ | f' <;>
      simp [ob_make_image_rest, h, chosenFactory, ob_make_image_new, ob_get_border]
  · simp [ob_make_image_rest, hf f rfl, chosenFactory, ob_make_image_new, ob_get_border]

/-- `make_image` = the Model's `step .makeImage` (spelled out at `C18_source_makeImage_src`).
    Hypotheses: no embedded image in `kwargs` unless the level is H (the Model has no `kwargs`; see
    `make_image_embedded_src`), and the `image_factory` argument, if given, is a subclass of `BaseImage`. -/
theorem makeImage_src {F K : Type} (issub : F → Bool) (truthy : K → Bool) (Image : Bool) (PilImage PyPNGImage : F)
    (nd nc np : F → Bool) (fac : Option F) (g : Global) (s : QRState) (arg : Option F) (kwargs : List (String × K))
    (hk : (ob_py_truthy_opt truthy (ob_py_kwargs_get kwargs "embeded_image_path") ||
            ob_py_truthy_opt truthy (ob_py_kwargs_get kwargs "embeded_image")) = false ∨ s.level = 2)
    (hf : ∀ f, arg = some f → issub f = true) :
    ob_make_image issub truthy Image PilImage PyPNGImage nd nc np (makeOb fac) g (toOb fac s) arg kwargs =
      match step (g, s) .makeImage with
      | (st', .err e) => ((st'.1, toOb fac st'.2), .error e.name)
      | (st', .image b n bs m) =>
        (let im : ob_Call F K :=
           { cls := chosenFactory Image PilImage PyPNGImage fac arg, pos := [(b : Int), (n : Int), bs],
             kw := [("qrcode_modules", m)], star := kwargs }
         ((st'.1, toOb fac st'.2), .ok (im, ob_make_image_draw nd nc np (toOb fac st'.2) im)))
      | (st', _) => ((st'.1, toOb fac st'.2), .error "unreachable") := by
  have hguard : ((ob_py_truthy_opt truthy (ob_py_kwargs_get kwargs "embeded_image_path") ||
      ob_py_truthy_opt truthy (ob_py_kwargs_get kwargs "embeded_image")) &&
      decide ((toOb fac s).error_correction ≠ 2)) = false := by
    rcases hk with hk | hk
    · rw [hk]; rfl
    · simp [toOb, hk]
  unfold ob_make_image
  rw [hguard, step_read (op := .makeImage) rfl]
  simp only [Bool.false_eq_true, if_false, readGuard, ensureMade]
  rw [show (toOb fac s).box_size = s.boxSize from rfl, checkBoxSize_src,
    show (toOb fac s).data_cache = s.dataCache from rfl]
  cases checkBoxSize s.boxSize with
  | error e => rfl
  | ok u =>
    cases hc : s.dataCache with
    | some d =>
      rw [Option.isNone_some, if_neg Bool.false_ne_true,
        make_image_rest_src issub Image PilImage PyPNGImage nd nc np g (toOb fac s) arg kwargs hf]
      rfl
    | none =>
      rw [Option.isNone_none, if_pos rfl, makeOb, ofOb_toOb]
      cases makeS true (g, s) with
      | mk st' r =>
        cases r with
        | error e => rfl
        | ok u =>
          simp only [liftR]
          rw [make_image_rest_src issub Image PilImage PyPNGImage nd nc np st'.1 (toOb fac st'.2) arg kwargs hf]
          rfl

/-- the test the Model does not have: an embedded image (`embeded_image_path` or `embeded_image` truthy in `kwargs`) with a
    level other than `ERROR_CORRECT_H` (= 2, read from `constants.py`) is a ValueError BEFORE anything else happens -/
theorem make_image_embedded_src {D C F K W : Type} (issub : F → Bool) (truthy : K → Bool) (Image : Bool)
    (PilImage PyPNGImage : F) (nd nc np : F → Bool) (mk : W × ob_QR D C F → (W × ob_QR D C F) × Except String Unit)
    (w : W) (o : ob_QR D C F) (arg : Option F) (kwargs : List (String × K))
    (hk : (ob_py_truthy_opt truthy (kwargs.lookup "embeded_image_path") ||
            ob_py_truthy_opt truthy (kwargs.lookup "embeded_image")) = true) (hl : o.error_correction ≠ 2) :
    ob_make_image issub truthy Image PilImage PyPNGImage nd nc np mk w o arg kwargs = ((w, o), .error "ValueError") := by
  unfold ob_make_image
  simp only [ob_py_kwargs_get, hk, Bool.true_and, decide_eq_true_eq.mpr hl, if_true]

/-! ### the draw loop -/

/-- cells `(r, c)`, `r, c < n`, row-major, that are dark (`None` and out-of-range count as light) -/
def darkCells (M : List (List (Option Bool))) (n : Nat) : List (Nat × Nat) :=
  (List.range n).flatMap fun r => ((List.range n).filter fun c => ((M.getD r []).getD c none).getD false).map fun c => (r, c)

/-- all cells `(r, c)`, `r, c < n`, row-major -/
def allCells (n : Nat) : List (Nat × Nat) := (List.range n).flatMap fun r => (List.range n).map fun c => (r, c)

theorem truthy_cell_eq (x : Option Bool) : ob_py_truthy_cell x = x.getD false := by cases x <;> rfl

/-- the calls one cell of the draw loop adds -/
def cellEvs {D C F K : Type} (nc : F → Bool) (o : ob_QR D C F) (im : ob_Call F K) (r c : Nat) : List ob_Ev :=
  if nc im.cls then [{ method := "drawrect_context", args := [(r : Int), (c : Int)], kw := [("qr", "self")] }]
  else if ((o.modules.getD r []).getD c none).getD false then [{ method := "drawrect", args := [(r : Int), (c : Int)], kw := [] }]
  else []

/-- **the draw loop of `make_image`** as a list: for a class that needs `drawrect`, the calls of every cell in row-major order;
    then `process()` iff the class needs processing -/
theorem make_image_draw_eq {D C F K : Type} (nd nc np : F → Bool) (o : ob_QR D C F) (im : ob_Call F K) :
    ob_make_image_draw nd nc np o im =
      (if nd im.cls then
        (List.range o.modules_count).flatMap fun r => (List.range o.modules_count).flatMap fun c => cellEvs nc o im r c
       else []) ++
      (if np im.cls then [({ method := "process", args := [], kw := [] } : ob_Ev)] else []) := by
  have hcell : ∀ r c evs, ob_make_image_cell nd nc np o im r c evs = evs ++ cellEvs nc o im r c := by
    intro r c evs
    simp only [ob_make_image_cell, cellEvs, truthy_cell_eq]
    split
    · rfl
    · split
      · rfl
      · exact (List.append_nil evs).symm
  have hrow : ∀ r evs, ob_make_image_row nd nc np o im r evs =
      evs ++ (List.range o.modules_count).flatMap fun c => cellEvs nc o im r c := by
    intro r evs
    simp only [ob_make_image_row, hcell, foldl_append_flatMap]
  simp only [ob_make_image_draw, hrow, foldl_append_flatMap, List.nil_append]
  by_cases hd : nd im.cls <;> by_cases hp : np im.cls <;> simp [hd, hp]

/-! ### `is_constrained`, `active_with_neighbors` -/

/-- `is_constrained(row, col)` is the bounds test against the matrix -/
theorem is_constrained_src {D C F : Type} (o : ob_QR D C F) (row col : Int) :
    ob_is_constrained o row col =
      decide (0 ≤ row ∧ row < o.modules.length ∧ 0 ≤ col ∧ col < (o.modules.getD row.toNat []).length) := by
  simp [ob_is_constrained, Bool.decide_and, Bool.and_assoc]

/-- the module at signed coordinates: out of range (either side) and `None` are `False` -/
def cellAt (M : List (List (Option Bool))) (r c : Int) : Bool :=
  decide (0 ≤ r) && decide (0 ≤ c) && ((M.getD r.toNat []).getD c.toNat none).getD false

/-- the expression `active_with_neighbors` appends: `is_constrained(r, c) and bool(modules[r][c])` -/
theorem awn_cell_src {D C F : Type} (o : ob_QR D C F) (r c : Int) (ctx : List Bool) :
    ob_awn_cell o r c ctx = ctx ++ [cellAt o.modules r c] := by
  unfold ob_awn_cell cellAt
  rw [is_constrained_src, truthy_cell_eq]
  congr 2
  -- the upper bounds of `is_constrained` are implied by the cell being `True`: `getD` beyond a list's end is the default
  by_cases h1 : 0 ≤ r <;> by_cases h2 : 0 ≤ c <;> simp [h1, h2]
  -- left: `0 ≤ r`, `0 ≤ c`, and the goal `cell = true → r < length ∧ c < row length`
  intro hx
  refine ⟨?_, ?_⟩
  · apply Classical.byContradiction; intro hlt
    have : o.modules.length ≤ r.toNat := by omega
    rw [List.getElem?_eq_none this] at hx
    simp at hx
  · apply Classical.byContradiction; intro hlt
    have : (o.modules[r.toNat]?.getD []).length ≤ c.toNat := by omega
    rw [List.getElem?_eq_none this] at hx
    simp at hx

theorem py_range3 (a : Int) : ob_py_range (a - 1) (a + 2) = [a - 1, a, a + 1] := by
  have h : (a + 2 - (a - 1)).toNat = 3 := by omega
  simp only [ob_py_range, h]
  simp [List.range_succ]
  omega

end QR.SourceTieD2
