import QR.Proofs.Compile
import QR.Proofs.Fit
import QR.Proofs.Stream
import QR.Proofs.Blocks
/-
C03 (totality): for valid segments and a valid configuration, `compile` either succeeds or raises DataOverflowError,
and it overflows exactly when the stream does not fit the largest admissible version.  Each stage gets one complete
description (`createData_char`, `maskChoice_total`, `chooseVersion_char`, then `compile_char`); the C03 statements are read
off the last.
What makes "the largest admissible version" enough is `fits_forty` (Fit.lean): anything that fits a version 1..40 fits
version 40.
-/
namespace QR

/-- a valid constructor configuration: `version` is `None` (0) or 1..40 (checked by `check_version`), the mask
    pattern is `None` or 0..7 (checked by `_check_mask_pattern`) -/
def Model.Cfg.Valid (cfg : Model.Cfg) : Prop := cfg.version ≤ 40 ∧ ∀ m, cfg.mask = some m → m ≤ 7

/-- the largest admissible version: the requested one when a version is given and fitting is off, else 40 -/
def Model.Cfg.vmax (cfg : Model.Cfg) : Nat := if cfg.version ≠ 0 ∧ cfg.fit = false then cfg.version else 40

namespace Proofs
open Model

/-- what the reader finds in the codewords `create_data` returns for the segments `ps` (C02 and C06 together): the ISO
    number of bytes; cut into blocks, each is a Reed-Solomon codeword, and the data codewords are a conformant stream of `ps` -/
structure DataOK (v : Nat) (l : Spec.Level) (ps : List Spec.PSeg) (data : List Nat) : Prop where
  length : data.length = Spec.totalCodewords v
  bytes : ∀ b ∈ data, b < 256
  blocks : ∀ b ∈ Spec.blocksOf v l data, Spec.isCodeword (Spec.eccLen v l) (b.data ++ b.ec) = true
  stream : Spec.readStream v (Model.writeBytes ((Spec.blocksOf v l data).flatMap (·.data))) =
    some { segs := ps, tailConformant := true }
  count : ((Spec.blocksOf v l data).flatMap (·.data)).length = Spec.dataCodewords v l

/-- `dataBits_char` (C06) carried through `create_bytes` (`createBytes_iso`, C02) -/
theorem createData_char {v : Nat} (h1 : 1 ≤ v) (h40 : v ≤ 40) (l : Spec.Level) {segs : List Model.Seg}
    (hv : ∀ s ∈ segs, s.Valid) {ps : List Spec.PSeg} (hp : toPSegs segs = some ps) :
    (∃ data, Model.createData v l.indicator segs = .ok data ∧ Spec.fits v l (segCounts ps) = true ∧
      DataOK v l ps data) ∨
    (Model.createData v l.indicator segs = .error .dataOverflow ∧ Spec.fits v l (segCounts ps) = false) := by
  obtain ⟨u, rfl⟩ : ∃ u, v = u + 1 := ⟨v - 1, by omega⟩
  unfold Model.createData
  rcases dataBits_char h1 h40 l hv hp with ⟨all, hall, hfit, _⟩ | ⟨he, hnf⟩
  · obtain ⟨hstream, hlen, hb⟩ := C06_codewords h1 h40 l hv hp hall
    obtain ⟨cw, hcw, hcl, hcb, hflat, hcode⟩ := createBytes_iso u (by omega) l _ hlen hb
    refine Or.inl ⟨cw, ?_, (fits_true_iff ..).2 hfit,
      { length := hcl, bytes := hcb, blocks := fun b hb => (hcode b hb).2.2.2, stream := hflat ▸ hstream,
        count := hflat ▸ hlen }⟩
    rw [hall, R.bind_ok, Props.C02_table u (by omega) l (Props.mem_allLevels l), R.bind_ok, hcw]
  · exact Or.inr ⟨by rw [he, R.bind_error], (fits_false_iff ..).2 hnf⟩

/-- the `(min_lost_point, pattern)` loop of `best_mask_pattern` computes the first arg-min, for any scores
    and any number of candidates -/
theorem foldl_pickMask (f : Nat → Nat) (n : Nat) :
    (List.range (n + 1)).foldl (fun st i => pickMask st i (f i)) (0, 0)
      = (f (Spec.argminFirst (n + 1) f), Spec.argminFirst (n + 1) f) := by
  induction n with
  | zero => simp [pickMask, Spec.argminFirst]
  | succ n ih =>
    rw [List.range_succ, List.foldl_append, ih, argminFirst_succ (n + 1)]
    simp only [List.foldl_cons, List.foldl_nil, pickMask]
    by_cases h : f (n + 1) < f (Spec.argminFirst (n + 1) f)
    · simp [h]
    · simp [h]

/-- the loop as it stands in `bestMaskPattern`, in the monad: when the trial symbols build, it is the fold above -/
theorem foldlM_pickMask (v l : Nat) (data : List Nat) (Ms : Nat → Mat) (is : List Nat) (st : Nat × Nat)
    (h : ∀ i ∈ is, makeImpl v l true i data = .ok (Ms i)) :
    is.foldlM (fun (st : Nat × Nat) i => do
        let m ← makeImpl v l true i data
        pure (pickMask st i (lostPoint m.toBMat))) st
      = (.ok (is.foldl (fun st i => pickMask st i (lostPoint (Ms i).toBMat)) st) : R (Nat × Nat)) := by
  induction is generalizing st with
  | nil => rfl
  | cons i is ih =>
    rw [List.foldlM_cons, h i (List.mem_cons_self ..)]
    simp only [List.foldl_cons]
    exact ih _ (fun j hj => h j (List.mem_cons_of_mem _ hj))

/-- the eight trial symbols exist, as a function of the mask number -/
theorem trials_exist (v : Nat) (h40 : v ≤ 40) (level : Nat) (data : List Nat) :
    ∃ Ms : Nat → Mat, ∀ i, i < 8 → makeImpl v level true i data = .ok (Ms i) := by
  refine ⟨fun i => match makeImpl v level true i data with | .ok M => M | .error _ => #[], ?_⟩
  intro i hi
  obtain ⟨Mi, h⟩ := (makeImpl_ok_iff v level true i data).2 ⟨h40, hi⟩
  simp only [h]

/-- `best_mask_pattern()` returns the lowest-numbered mask whose trial symbol has the least `lost_point` -/
theorem bestMaskPattern_eq (v l : Nat) (data : List Nat) (Ms : Nat → Mat)
    (h : ∀ i, i < 8 → makeImpl v l true i data = .ok (Ms i)) :
    bestMaskPattern v l data = .ok (Spec.argminFirst 8 fun i => lostPoint (Ms i).toBMat) := by
  unfold bestMaskPattern
  rw [foldlM_pickMask v l data Ms (List.range 8) (0, 0) (fun i hi => h i (List.mem_range.mp hi))]
  rw [foldl_pickMask (fun i => lostPoint (Ms i).toBMat) 7]
  rfl

theorem bestMaskPattern_total (v : Nat) (h40 : v ≤ 40) (level : Nat) (data : List Nat) :
    ∃ k, Model.bestMaskPattern v level data = .ok k ∧ k ≤ 7 := by
  obtain ⟨Ms, hMs⟩ := trials_exist v h40 level data
  exact ⟨_, bestMaskPattern_eq v level data Ms hMs, argminFirst_le_pred 8 _⟩

/-- the mask stage of `compile`: the requested pattern when there is one, else one of the eight -/
theorem maskChoice_total (mask : Option Nat) (hmask : ∀ m, mask = some m → m ≤ 7) (v : Nat) (h40 : v ≤ 40)
    (level : Nat) (data : List Nat) :
    ∃ k, maskChoice mask v level data = .ok k ∧ k ≤ 7 ∧ ∀ m', mask = some m' → k = m' := by
  cases mask with
  | some m => exact ⟨m, rfl, hmask m rfl, fun _ h' => Option.some.inj h'⟩
  | none =>
    obtain ⟨k, hk, hk7⟩ := bestMaskPattern_total v h40 level data
    exact ⟨k, hk, hk7, fun _ h' => nomatch h'⟩

theorem bestFit_of_fits {v : Nat} (h1 : 1 ≤ v) (h40 : v ≤ 40) {l : Spec.Level} {segs : List Model.Seg}
    (hv : ∀ s ∈ segs, s.Valid) {ps : List Spec.PSeg} (hp : toPSegs segs = some ps)
    (hf : Spec.fits v l (segCounts ps) = true) : Model.bestFit 4 v l.indicator segs = .ok v := by
  rcases bestFit_char v h40 l hv hp with ⟨w, hw, m1, m2, m3, m4⟩ | ⟨_, hno⟩
  · rw [hw]
    by_cases hvw : v < w
    · have := m4 v (by omega) hvw
      rw [hf] at this; cases this
    · have : w = v := by omega
      rw [this]
  · have := hno v (by omega) h40
    rw [hf] at this; cases this

/-- what `C03_version` says about the version -/
def VersionSpec (cfg : Model.Cfg) (l : Spec.Level) (cs : List (Spec.Mode × Nat)) (v : Nat) : Prop :=
  if cfg.fit then Spec.minVersion cfg.version l cs = some v
  else (cfg.version ≠ 0 → v = cfg.version) ∧ (cfg.version = 0 → Spec.minVersion 0 l cs = some v)

/-- version given and fitting off: `make` compiles at the given version -/
theorem chooseVersion_forced (cfg : Model.Cfg) (segs : List Model.Seg) (h : cfg.version ≠ 0 ∧ cfg.fit = false) :
    Model.chooseVersion cfg segs = .ok cfg.version := by
  rw [chooseVersion_eq, if_neg h.1, R.bind_ok, h.2]
  rfl

/-- otherwise it compiles at `best_fit(start = version)`: with no version given `self.version` runs `best_fit()` first,
    and fitting again from an adequate version returns it -/
theorem chooseVersion_unforced {cfg : Model.Cfg} {l : Spec.Level} (hl : cfg.level = l.indicator)
    {segs : List Model.Seg} (hv : ∀ s ∈ segs, s.Valid) {ps : List Spec.PSeg} (hp : toPSegs segs = some ps)
    (h : ¬ (cfg.version ≠ 0 ∧ cfg.fit = false)) :
    Model.chooseVersion cfg segs = Model.bestFit 4 cfg.version cfg.level segs := by
  rw [chooseVersion_eq]
  by_cases h0 : cfg.version = 0
  · rw [if_pos h0, h0, hl]
    rcases bestFit_char 0 (by omega) l hv hp with ⟨w, hw, m1, m2, m3, _⟩ | ⟨he, _⟩
    · rw [hw, R.bind_ok]
      cases cfg.fit with
      | false => rfl
      | true => exact bestFit_of_fits (by omega) m2 hv hp m3
    · rw [he, R.bind_error]
  · have hfit : cfg.fit = true := by
      cases hf : cfg.fit with
      | false => exact absurd ⟨h0, hf⟩ h
      | true => rfl
    rw [if_neg h0, R.bind_ok, if_pos hfit]

/-- the version `make(fit)` compiles at: either a version 1..40 as specified, which holds the stream exactly when the
    largest admissible version does (it is that version when forced - version given, fitting off -, and otherwise adequate,
    hence so is 40), or DataOverflowError when version 40 does not hold it -/
theorem chooseVersion_char {cfg : Model.Cfg} (hver : cfg.version ≤ 40) {l : Spec.Level} (hl : cfg.level = l.indicator)
    {segs : List Model.Seg} (hv : ∀ s ∈ segs, s.Valid) {ps : List Spec.PSeg} (hp : toPSegs segs = some ps) :
    (∃ v, Model.chooseVersion cfg segs = .ok v ∧ 1 ≤ v ∧ v ≤ 40 ∧ VersionSpec cfg l (segCounts ps) v ∧
        Spec.fits cfg.vmax l (segCounts ps) = Spec.fits v l (segCounts ps)) ∨
    (Model.chooseVersion cfg segs = .error .dataOverflow ∧ Spec.fits cfg.vmax l (segCounts ps) = false) := by
  unfold VersionSpec Model.Cfg.vmax
  by_cases hf : cfg.version ≠ 0 ∧ cfg.fit = false
  · left
    refine ⟨cfg.version, chooseVersion_forced cfg segs hf, by omega, hver, ?_, by rw [if_pos hf]⟩
    rw [hf.2]
    exact ⟨fun _ => rfl, fun h => absurd h hf.1⟩
  · rw [chooseVersion_unforced hl hv hp hf, hl, if_neg hf]
    rcases bestFit_char cfg.version hver l hv hp with ⟨w, hw, hmin⟩ | ⟨he, hno⟩
    · left
      have hmv := minVersion_eq_some cfg.version l _ w hmin
      obtain ⟨m1, m2, m3, _⟩ := hmin
      refine ⟨w, hw, by omega, m2, ?_, by rw [m3, fits_forty l _ w (by omega) m2 m3]⟩
      cases hfit : cfg.fit with
      | false => exact ⟨fun h0 => absurd ⟨h0, hfit⟩ hf, fun h0 => h0 ▸ hmv⟩
      | true => exact hmv
    · exact Or.inr ⟨he, hno 40 (by omega) (Nat.le_refl _)⟩

/-- what a successful `compile` satisfies: version 1..40 as specified and adequate, mask 0..7 and the requested one; the
    matrix is `makeImpl` of that version and mask on the codewords `create_data` returns -/
structure CompileOK (cfg : Model.Cfg) (l : Spec.Level) (segs : List Model.Seg) (ps : List Spec.PSeg)
    (r : Nat × Nat × Model.Mat) : Prop where
  one_le : 1 ≤ r.1
  le_forty : r.1 ≤ 40
  mask_le : r.2.1 ≤ 7
  version : VersionSpec cfg l (segCounts ps) r.1
  mask : ∀ m', cfg.mask = some m' → r.2.1 = m'
  fits : Spec.fits r.1 l (segCounts ps) = true
  fits_vmax : Spec.fits cfg.vmax l (segCounts ps) = true
  built : ∃ data, Model.createData r.1 l.indicator segs = .ok data ∧ DataOK r.1 l ps data ∧
    Model.makeImpl r.1 l.indicator false r.2.1 data = .ok r.2.2

theorem compile_char {cfg : Model.Cfg} (hcfg : cfg.Valid) {l : Spec.Level} (hl : cfg.level = l.indicator)
    {segs : List Model.Seg} (hv : ∀ s ∈ segs, s.Valid) {ps : List Spec.PSeg} (hp : toPSegs segs = some ps) :
    (∃ r, Model.compile cfg segs = .ok r ∧ CompileOK cfg l segs ps r) ∨
    (Model.compile cfg segs = .error .dataOverflow ∧ Spec.fits cfg.vmax l (segCounts ps) = false) := by
  obtain ⟨hver, hmask⟩ := hcfg
  rw [compile_eq]
  rcases chooseVersion_char hver hl hv hp with ⟨v, hcv, h1, h40, hvs, hmax⟩ | ⟨he, hmax⟩
  · rw [hcv, R.bind_ok, hl]
    rcases createData_char h1 h40 l hv hp with ⟨cw, hcw, hf, hdata⟩ | ⟨herr, hf⟩
    · left
      obtain ⟨k, hk, hk7, hkm⟩ := maskChoice_total cfg.mask hmask v h40 l.indicator cw
      obtain ⟨M, hM⟩ := (makeImpl_ok_iff v l.indicator false k cw).2 ⟨h40, Nat.lt_succ_of_le hk7⟩
      exact ⟨(v, k, M), by rw [hcw, R.bind_ok, hk, R.bind_ok, hM]; rfl,
        { one_le := h1, le_forty := h40, mask_le := hk7, version := hvs, mask := hkm, fits := hf, fits_vmax := hmax ▸ hf,
          built := ⟨cw, hcw, hdata, hM⟩ }⟩
    · exact Or.inr ⟨by rw [herr, R.bind_error], hmax ▸ hf⟩
  · exact Or.inr ⟨by rw [he, R.bind_error], hmax⟩

/-- **C03**: `compile` either succeeds or raises DataOverflowError - no other exception, for any data content -/
theorem C03_total (cfg : Model.Cfg) (hcfg : cfg.Valid) (l : Spec.Level) (hl : cfg.level = l.indicator)
    (segs : List Model.Seg) (hv : ∀ s ∈ segs, s.Valid) :
    (∃ r, Model.compile cfg segs = .ok r) ∨ Model.compile cfg segs = .error .dataOverflow := by
  obtain ⟨ps, hp⟩ := toPSegs_of_valid hv
  exact (compile_char hcfg hl hv hp).imp (fun ⟨r, h, _⟩ => ⟨r, h⟩) (·.1)

/-- **C03**: it overflows exactly when the stream exceeds the data capacity of the largest admissible version -/
theorem C03_iff (cfg : Model.Cfg) (hcfg : cfg.Valid) (l : Spec.Level) (hl : cfg.level = l.indicator)
    (segs : List Model.Seg) (hv : ∀ s ∈ segs, s.Valid) (ps : List Spec.PSeg) (hp : toPSegs segs = some ps) :
    Model.compile cfg segs = .error .dataOverflow ↔ Spec.fits cfg.vmax l (segCounts ps) = false :=
  R.error_iff_of_char (compile_char hcfg hl hv hp) fun _ h hf => Bool.noConfusion (h.fits_vmax.symm.trans hf)

/-- **C03**: on success the version is the specified one (smallest adequate version from the start when fitting, the
    requested version otherwise) and a requested mask pattern is the one used -/
theorem C03_version (cfg : Model.Cfg) (hcfg : cfg.Valid) (l : Spec.Level) (hl : cfg.level = l.indicator)
    (segs : List Model.Seg) (hv : ∀ s ∈ segs, s.Valid) (ps : List Spec.PSeg) (hp : toPSegs segs = some ps)
    (v m : Nat) (M : Model.Mat) (h : Model.compile cfg segs = .ok (v, m, M)) :
    (if cfg.fit then Spec.minVersion cfg.version l (segCounts ps) = some v
     else (cfg.version ≠ 0 → v = cfg.version) ∧ (cfg.version = 0 → Spec.minVersion 0 l (segCounts ps) = some v)) ∧
    (∀ m', cfg.mask = some m' → m = m') :=
  have h := R.ok_of_char (compile_char hcfg hl hv hp) h
  ⟨h.version, h.mask⟩

/-- on success: the version is in range, adequate, and the mask is one of the eight patterns -/
theorem C03_ok_range (cfg : Model.Cfg) (hcfg : cfg.Valid) (l : Spec.Level) (hl : cfg.level = l.indicator)
    (segs : List Model.Seg) (hv : ∀ s ∈ segs, s.Valid) (ps : List Spec.PSeg) (hp : toPSegs segs = some ps)
    (v m : Nat) (M : Model.Mat) (h : Model.compile cfg segs = .ok (v, m, M)) :
    1 ≤ v ∧ v ≤ 40 ∧ m ≤ 7 ∧ Spec.fits v l (segCounts ps) = true :=
  have h := R.ok_of_char (compile_char hcfg hl hv hp) h
  ⟨h.one_le, h.le_forty, h.mask_le, h.fits⟩

end Proofs
end QR
