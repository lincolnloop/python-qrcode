import QR.Proofs.MatLemmas
import QR.Proofs.GeomLemmas
import QR.Proofs.C04Tables
import QR.Spec.Reader
/-
C04, geometric part: `setup_type_info` / `setup_type_number` write every bit of the ISO format / version word at its
ISO-assigned module (both copies) plus the dark module and nothing else (`typeInfo_get`); the Spec reader recovers level,
mask and version from those cells (`reader_of_infoCell`).  `Spec.infoCell` looks a cell up in four lists of positions;
each is `(List.range k).map pos` with a closed-form inverse `inv r c = some i ↔ i < k ∧ pos i = (r, c)`, from which: no
repeats, no shared cells, all inside the symbol, together the cells of `Spec.inFormat` / `Spec.inVersion`.  Each Python loop
writes at step `i` the cell at index `i` of a list (`pv_eq`, `ph_eq`): a painting step (`Model.Paints`) of colour `Spec.infoCell`.
-/
namespace QR.GeoB

/-! `fmt1At`, `fmt2At n`, `ver1At n`, `ver2At n` give the position at index `i` of the four lists (`fmtPos1_eq` ..
`verPos2_eq`, by `rfl`), `fmt1Idx` .. `ver2Idx` the index of a cell; the second copy of the version information is the
transpose of the first. -/

def fmt1At (i : Nat) : Nat × Nat :=
  if i < 6 then (i, 8) else if i < 8 then (i + 1, 8) else if i < 9 then (8, 7) else (8, 14 - i)
def fmt1Idx (r c : Nat) : Option Nat :=
  if c = 8 then (if r < 6 then some r else if r = 7 ∨ r = 8 then some (r - 1) else none)
  else if r = 8 then (if c = 7 then some 8 else if c < 6 then some (14 - c) else none) else none

theorem fmtPos1_eq : Spec.fmtPos1 = (List.range 15).map fmt1At := rfl

theorem fmt1Idx_iff (r c i : Nat) : fmt1Idx r c = some i ↔ i < 15 ∧ fmt1At i = (r, c) := by
  unfold fmt1Idx fmt1At
  grind

def fmt2At (n i : Nat) : Nat × Nat := if i < 8 then (8, n - 1 - i) else (n - 15 + i, 8)
def fmt2Idx (n r c : Nat) : Option Nat :=
  if r = 8 ∧ n - 8 ≤ c ∧ c < n then some (n - 1 - c)
  else if c = 8 ∧ n - 7 ≤ r ∧ r < n then some (r + 15 - n) else none

theorem fmtPos2_eq (n : Nat) : Spec.fmtPos2 n = (List.range 15).map (fmt2At n) := rfl

theorem fmt2Idx_iff (n : Nat) (hn : 21 ≤ n) (r c i : Nat) :
    fmt2Idx n r c = some i ↔ i < 15 ∧ fmt2At n i = (r, c) := by
  unfold fmt2Idx fmt2At
  grind

def ver1At (n i : Nat) : Nat × Nat := (i / 3, n - 11 + i % 3)
def ver2At (n i : Nat) : Nat × Nat := (n - 11 + i % 3, i / 3)
def ver1Idx (n r c : Nat) : Option Nat :=
  if r < 6 ∧ n - 11 ≤ c ∧ c ≤ n - 9 then some (3 * r + (c - (n - 11))) else none
def ver2Idx (n r c : Nat) : Option Nat := ver1Idx n c r

theorem verPos1_eq (n : Nat) : Spec.verPos1 n = (List.range 18).map (ver1At n) := rfl
theorem verPos2_eq (n : Nat) : Spec.verPos2 n = (List.range 18).map (ver2At n) := rfl

theorem ver1Idx_iff (n : Nat) (hn : 21 ≤ n) (r c i : Nat) :
    ver1Idx n r c = some i ↔ i < 18 ∧ ver1At n i = (r, c) := by
  unfold ver1Idx ver1At
  simp only [Prod.mk.injEq]
  split
  · simp only [Option.some.injEq]; omega
  · simp only [reduceCtorEq, false_iff]; omega

theorem ver2Idx_iff (n : Nat) (hn : 21 ≤ n) (r c i : Nat) :
    ver2Idx n r c = some i ↔ i < 18 ∧ ver2At n i = (r, c) := by
  rw [ver2Idx, ver1Idx_iff n hn, ver1At, ver2At, Prod.mk.injEq, Prod.mk.injEq, and_comm (a := i / 3 = c)]

theorem mem_map_range_iff {α} (pos : Nat → α) (p : α) {o : Option Nat} (k : Nat)
    (h : ∀ i, o = some i ↔ i < k ∧ pos i = p) : p ∈ (List.range k).map pos ↔ o.isSome = true := by
  constructor
  · intro hm
    obtain ⟨i, hi, hp⟩ := List.mem_map.mp hm
    rw [(h i).mpr ⟨List.mem_range.mp hi, hp⟩]; rfl
  · intro hs
    cases o with
    | none => cases hs
    | some i =>
      obtain ⟨hi, hp⟩ := (h i).mp rfl
      exact List.mem_map.mpr ⟨i, List.mem_range.mpr hi, hp⟩

theorem nodup_map_range (pos : Nat → Nat × Nat) (inv : Nat → Nat → Option Nat) (k : Nat)
    (h : ∀ r c i, inv r c = some i ↔ i < k ∧ pos i = (r, c)) : ((List.range k).map pos).Nodup := by
  rw [List.Nodup, List.pairwise_map]
  refine List.Pairwise.imp_of_mem ?_ (List.pairwise_lt_range (n := k))
  intro i j hi hj hlt heq
  have hi := List.mem_range.mp hi
  have hj := List.mem_range.mp hj
  have a := (h (pos j).1 (pos j).2 i).mpr ⟨hi, by rw [heq]⟩
  have b := (h (pos j).1 (pos j).2 j).mpr ⟨hj, rfl⟩
  rw [a] at b; injection b with b; omega

theorem mem_fmtPos1 (r c : Nat) : (r, c) ∈ Spec.fmtPos1 ↔ (fmt1Idx r c).isSome = true := by
  rw [fmtPos1_eq]; exact mem_map_range_iff fmt1At (r, c) 15 (fmt1Idx_iff r c)
theorem mem_fmtPos2 (n : Nat) (hn : 21 ≤ n) (r c : Nat) :
    (r, c) ∈ Spec.fmtPos2 n ↔ (fmt2Idx n r c).isSome = true := by
  rw [fmtPos2_eq]; exact mem_map_range_iff (fmt2At n) (r, c) 15 (fmt2Idx_iff n hn r c)
theorem mem_verPos1 (n : Nat) (hn : 21 ≤ n) (r c : Nat) :
    (r, c) ∈ Spec.verPos1 n ↔ (ver1Idx n r c).isSome = true := by
  rw [verPos1_eq]; exact mem_map_range_iff (ver1At n) (r, c) 18 (ver1Idx_iff n hn r c)
theorem mem_verPos2 (n : Nat) (hn : 21 ≤ n) (r c : Nat) :
    (r, c) ∈ Spec.verPos2 n ↔ (ver2Idx n r c).isSome = true := by
  rw [verPos2_eq]; exact mem_map_range_iff (ver2At n) (r, c) 18 (ver2Idx_iff n hn r c)

theorem fmtPos_length (n : Nat) : Spec.fmtPos1.length = 15 ∧ (Spec.fmtPos2 n).length = 15 :=
  ⟨rfl, by simp only [Spec.fmtPos2, List.length_map, List.length_range]⟩
theorem verPos_length (n : Nat) : (Spec.verPos1 n).length = 18 ∧ (Spec.verPos2 n).length = 18 :=
  ⟨by simp only [Spec.verPos1, List.length_map, List.length_range],
   by simp only [Spec.verPos2, List.length_map, List.length_range]⟩

theorem fmtPos_nodup (n : Nat) (hn : 21 ≤ n) : (Spec.fmtPos1 ++ Spec.fmtPos2 n).Nodup := by
  rw [List.nodup_append]
  refine ⟨by rw [fmtPos1_eq]; exact nodup_map_range fmt1At fmt1Idx 15 fmt1Idx_iff,
          by rw [fmtPos2_eq]; exact nodup_map_range (fmt2At n) (fmt2Idx n) 15 (fmt2Idx_iff n hn), ?_⟩
  rintro ⟨r, c⟩ h1 ⟨r', c'⟩ h2 heq
  injection heq with e1 e2; subst e1; subst e2
  rw [mem_fmtPos1] at h1; rw [mem_fmtPos2 n hn] at h2
  revert h1 h2; simp only [fmt1Idx, fmt2Idx]; grind

theorem fmtPos_inside (n : Nat) (hn : 21 ≤ n) : ∀ p ∈ Spec.fmtPos1 ++ Spec.fmtPos2 n, p.1 < n ∧ p.2 < n := by
  rintro ⟨r, c⟩ hp
  rw [List.mem_append, mem_fmtPos1, mem_fmtPos2 n hn] at hp
  revert hp; simp only [fmt1Idx, fmt2Idx]; grind

theorem mem_fmtPos_iff (n : Nat) (hn : 21 ≤ n) (r c : Nat) (hr : r < n) (hc : c < n) :
    (r, c) ∈ Spec.fmtPos1 ++ Spec.fmtPos2 n ↔ Spec.inFormat n r c = true := by
  rw [List.mem_append, mem_fmtPos1, mem_fmtPos2 n hn]
  simp only [fmt1Idx, fmt2Idx, Spec.inFormat]; grind

theorem dark_not_fmtPos (n : Nat) (hn : 21 ≤ n) : (n - 8, 8) ∉ Spec.fmtPos1 ++ Spec.fmtPos2 n := by
  rw [List.mem_append, mem_fmtPos1, mem_fmtPos2 n hn]
  simp only [fmt1Idx, fmt2Idx]; grind

theorem verPos_nodup (n : Nat) (hn : 21 ≤ n) : (Spec.verPos1 n ++ Spec.verPos2 n).Nodup := by
  rw [List.nodup_append]
  refine ⟨by rw [verPos1_eq]; exact nodup_map_range (ver1At n) (ver1Idx n) 18 (ver1Idx_iff n hn),
          by rw [verPos2_eq]; exact nodup_map_range (ver2At n) (ver2Idx n) 18 (ver2Idx_iff n hn), ?_⟩
  rintro ⟨r, c⟩ h1 ⟨r', c'⟩ h2 heq
  injection heq with e1 e2; subst e1; subst e2
  rw [mem_verPos1 n hn] at h1; rw [mem_verPos2 n hn] at h2
  revert h1 h2; simp only [ver1Idx, ver2Idx]; grind

theorem verPos_inside (n : Nat) (hn : 21 ≤ n) : ∀ p ∈ Spec.verPos1 n ++ Spec.verPos2 n, p.1 < n ∧ p.2 < n := by
  rintro ⟨r, c⟩ hp
  rw [List.mem_append, mem_verPos1 n hn, mem_verPos2 n hn] at hp
  revert hp; simp only [ver1Idx, ver2Idx]; grind

theorem mem_verPos_iff (v n : Nat) (hv : 7 ≤ v) (hn : 21 ≤ n) (r c : Nat) :
    (r, c) ∈ Spec.verPos1 n ++ Spec.verPos2 n ↔ Spec.inVersion v n r c = true := by
  rw [List.mem_append, mem_verPos1 n hn, mem_verPos2 n hn]
  simp only [ver1Idx, ver2Idx, Spec.inVersion]; grind

theorem verPos_not_fmtPos (n : Nat) (hn : 21 ≤ n) :
    ∀ p ∈ Spec.verPos1 n ++ Spec.verPos2 n, p ∉ Spec.fmtPos1 ++ Spec.fmtPos2 n ∧ p ≠ (n - 8, 8) := by
  rintro ⟨r, c⟩ hp
  rw [List.mem_append, mem_verPos1 n hn, mem_verPos2 n hn] at hp
  rw [List.mem_append, mem_fmtPos1, mem_fmtPos2 n hn]
  revert hp; simp only [ver1Idx, ver2Idx, fmt1Idx, fmt2Idx]; grind

theorem posIdx_isSome {ps : List (Nat × Nat)} {r c : Nat} : (Spec.posIdx ps r c).isSome = true ↔ (r, c) ∈ ps := by
  rw [Spec.posIdx, ← Option.ne_none_iff_isSome, Ne, List.idxOf?_eq_none_iff, Classical.not_not]

theorem posIdx_eq_none {ps : List (Nat × Nat)} {r c : Nat} (h : (r, c) ∉ ps) : Spec.posIdx ps r c = none :=
  List.idxOf?_eq_none_iff.2 h

theorem posIdx_getElem? {ps : List (Nat × Nat)} (hnd : ps.Nodup) {i r c : Nat} (h : ps[i]? = some (r, c)) :
    Spec.posIdx ps r c = some i := by
  obtain ⟨hi, e⟩ := List.getElem?_eq_some_iff.1 h
  unfold Spec.posIdx List.idxOf?
  rw [List.findIdx?_eq_some_iff_getElem]
  refine ⟨hi, by rw [e]; exact beq_self_eq_true _, fun j hj hb => ?_⟩
  have := (List.getElem_inj (h₀ := by omega) (h₁ := hi) hnd).1 ((beq_iff_eq.1 hb).trans e.symm)
  omega

theorem infoCell_isSome_iff_mem (v level mask : Nat) (test : Bool) (r c : Nat) :
    (Spec.infoCell v level mask test r c).isSome = true ↔
      (r, c) ∈ Spec.fmtPos1 ++ Spec.fmtPos2 (Spec.size v) ∨ Spec.isDarkModule (Spec.size v) r c = true ∨
        (7 ≤ v ∧ (r, c) ∈ Spec.verPos1 (Spec.size v) ++ Spec.verPos2 (Spec.size v)) := by
  unfold Spec.infoCell
  simp only [List.mem_append, ← posIdx_isSome]
  cases Spec.posIdx Spec.fmtPos1 r c with
  | some _ => simp
  | none =>
  cases Spec.posIdx (Spec.fmtPos2 (Spec.size v)) r c with
  | some _ => simp
  | none =>
  cases Spec.isDarkModule (Spec.size v) r c with
  | true => simp
  | false =>
  by_cases h7 : 7 ≤ v
  · cases Spec.posIdx (Spec.verPos1 (Spec.size v)) r c with
    | some _ => simp [h7]
    | none => cases Spec.posIdx (Spec.verPos2 (Spec.size v)) r c <;> simp [h7]
  · simp [h7]

theorem infoCell_isSome_iff (v level mask : Nat) (hv : 1 ≤ v) (test : Bool) (r c : Nat)
    (hr : r < Spec.size v) (hc : c < Spec.size v) :
    (Spec.infoCell v level mask test r c).isSome = true ↔
      (Spec.inFormat (Spec.size v) r c = true ∨ Spec.isDarkModule (Spec.size v) r c = true ∨
        Spec.inVersion v (Spec.size v) r c = true) := by
  have hn := Spec.size_ge hv
  rw [infoCell_isSome_iff_mem, mem_fmtPos_iff _ hn r c hr hc]
  by_cases h7 : 7 ≤ v
  · rw [mem_verPos_iff v _ h7 hn]
    simp only [h7, true_and]
  · simp only [h7, false_and, Spec.inVersion, decide_false, Bool.false_and, Bool.false_eq_true]

theorem infoCell_inBounds (v level mask : Nat) (hv : 1 ≤ v) (test : Bool) (r c : Nat) (b : Bool)
    (h : Spec.infoCell v level mask test r c = some b) : r < Spec.size v ∧ c < Spec.size v := by
  have hn := Spec.size_ge hv
  rcases (infoCell_isSome_iff_mem v level mask test r c).1 (by rw [h]; rfl) with hf | hd | ⟨_, hg⟩
  · exact fmtPos_inside _ hn (r, c) hf
  · simp only [Spec.isDarkModule, Bool.and_eq_true, beq_iff_eq] at hd
    omega
  · exact verPos_inside _ hn (r, c) hg

section
variable (v level mask : Nat) (test : Bool) (hv : 1 ≤ v)
include hv

/-! the cell at index `i` of each of the four lists holds bit `i` of its word: no list repeats a cell (so the cell is found
    at index `i`) and no earlier list holds it -/

theorem infoCell_fmt1 {i r c : Nat} (h : Spec.fmtPos1[i]? = some (r, c)) :
    Spec.infoCell v level mask test r c = some (!test && (Spec.formatWord (level * 8 + mask)).testBit i) := by
  have hn := Spec.size_ge hv
  unfold Spec.infoCell
  simp only [posIdx_getElem? (List.nodup_append.1 (fmtPos_nodup _ hn)).1 h]

theorem infoCell_fmt2 {i r c : Nat} (h : (Spec.fmtPos2 (Spec.size v))[i]? = some (r, c)) :
    Spec.infoCell v level mask test r c = some (!test && (Spec.formatWord (level * 8 + mask)).testBit i) := by
  have hn := Spec.size_ge hv
  obtain ⟨_, hnd2, hdis⟩ := List.nodup_append.1 (fmtPos_nodup _ hn)
  unfold Spec.infoCell
  simp only [posIdx_eq_none fun m1 => hdis _ m1 _ (List.mem_of_getElem? h) rfl, posIdx_getElem? hnd2 h]

theorem infoCell_dark : Spec.infoCell v level mask test (Spec.size v - 8) 8 = some (!test) := by
  have hn := Spec.size_ge hv
  have hd := dark_not_fmtPos _ hn
  rw [List.mem_append, not_or] at hd
  unfold Spec.infoCell
  simp only [posIdx_eq_none hd.1, posIdx_eq_none hd.2, Spec.isDarkModule, beq_self_eq_true, Bool.and_self, if_true]

theorem ver_not_fmt {r c : Nat} (hm : (r, c) ∈ Spec.verPos1 (Spec.size v) ++ Spec.verPos2 (Spec.size v)) :
    Spec.posIdx Spec.fmtPos1 r c = none ∧ Spec.posIdx (Spec.fmtPos2 (Spec.size v)) r c = none ∧
      Spec.isDarkModule (Spec.size v) r c = false := by
  have hn := Spec.size_ge hv
  obtain ⟨hf, hd⟩ := verPos_not_fmtPos _ hn _ hm
  rw [List.mem_append, not_or] at hf
  refine ⟨posIdx_eq_none hf.1, posIdx_eq_none hf.2, Bool.eq_false_iff.2 fun e => hd ?_⟩
  simp only [Spec.isDarkModule, Bool.and_eq_true, beq_iff_eq] at e
  rw [e.1, e.2]

theorem infoCell_ver1 (h7 : 7 ≤ v) {i r c : Nat} (h : (Spec.verPos1 (Spec.size v))[i]? = some (r, c)) :
    Spec.infoCell v level mask test r c = some (!test && (Spec.versionWord v).testBit i) := by
  have hn := Spec.size_ge hv
  obtain ⟨h1, h2, hd⟩ := ver_not_fmt v hv (List.mem_append_left _ (List.mem_of_getElem? h))
  unfold Spec.infoCell
  simp only [h1, h2, hd, Bool.false_eq_true, if_false, ge_iff_le, h7, if_true,
    posIdx_getElem? (List.nodup_append.1 (verPos_nodup _ hn)).1 h]

theorem infoCell_ver2 (h7 : 7 ≤ v) {i r c : Nat} (h : (Spec.verPos2 (Spec.size v))[i]? = some (r, c)) :
    Spec.infoCell v level mask test r c = some (!test && (Spec.versionWord v).testBit i) := by
  have hn := Spec.size_ge hv
  obtain ⟨h1, h2, hd⟩ := ver_not_fmt v hv (List.mem_append_right _ (List.mem_of_getElem? h))
  obtain ⟨_, hnd2, hdis⟩ := List.nodup_append.1 (verPos_nodup _ hn)
  unfold Spec.infoCell
  simp only [h1, h2, hd, Bool.false_eq_true, if_false, ge_iff_le, h7, if_true,
    posIdx_eq_none fun m1 => hdis _ m1 _ (List.mem_of_getElem? h) rfl, posIdx_getElem? hnd2 h]

end

theorem formatData_eq (level mask : Nat) (hm : mask < 8) : (level <<< 3) ||| mask = level * 8 + mask := by
  rw [← Nat.shiftLeft_add_eq_or_of_lt (by omega), Nat.shiftLeft_eq]

/-- the cell written at step `i` of the loop marked `# vertical` in `setup_type_info`, and (`ph`) of the one marked
    `# horizontal`, in the arithmetic of the source; the vertical loop writes the first half of copy 1 and the second half
    of copy 2, the horizontal loop the other halves (`pv_eq`, `ph_eq`) -/
def pv (n i : Nat) : Nat × Nat := if i < 6 then (i, 8) else if i < 8 then (i + 1, 8) else (n - 15 + i, 8)
def ph (n i : Nat) : Nat × Nat :=
  if i < 8 then (8, n - i - 1) else if i < 9 then (8, 15 - i - 1 + 1) else (8, 15 - i - 1)

theorem pv_eq (n i : Nat) : pv n i = if i < 8 then fmt1At i else fmt2At n i := by
  unfold pv fmt1At fmt2At; grind
theorem ph_eq (n i : Nat) : ph n i = if i < 8 then fmt2At n i else fmt1At i := by
  unfold ph fmt1At fmt2At; grind

theorem getElem?_map_range {α} (pos : Nat → α) {k i : Nat} (hi : i < k) : ((List.range k).map pos)[i]? = some (pos i) := by
  rw [List.getElem?_map, List.getElem?_range hi]
  rfl

theorem infoCell_pv (v level mask : Nat) (test : Bool) (hv : 1 ≤ v) (i : Nat) (hi : i < 15) :
    Spec.infoCell v level mask test (pv (Spec.size v) i).1 (pv (Spec.size v) i).2 =
      some (!test && (Spec.formatWord (level * 8 + mask)).testBit i) := by
  rw [pv_eq]
  split
  · exact infoCell_fmt1 v level mask test hv (fmtPos1_eq ▸ getElem?_map_range fmt1At hi)
  · exact infoCell_fmt2 v level mask test hv (getElem?_map_range (fmt2At _) hi)

theorem infoCell_ph (v level mask : Nat) (test : Bool) (hv : 1 ≤ v) (i : Nat) (hi : i < 15) :
    Spec.infoCell v level mask test (ph (Spec.size v) i).1 (ph (Spec.size v) i).2 =
      some (!test && (Spec.formatWord (level * 8 + mask)).testBit i) := by
  rw [ph_eq]
  split
  · exact infoCell_fmt2 v level mask test hv (getElem?_map_range (fmt2At _) hi)
  · exact infoCell_fmt1 v level mask test hv (fmtPos1_eq ▸ getElem?_map_range fmt1At hi)

theorem setupTypeInfo_eq (n level : Nat) (m : Model.Mat) (test : Bool) (mask : Nat) :
    Model.setupTypeInfo n level m test mask =
      ((List.range 15).foldl (fun m i => m.set (ph n i).1 (ph n i).2
          (some (!test && (Model.bchTypeInfo ((level <<< 3) ||| mask)).testBit i)))
        ((List.range 15).foldl (fun m i => m.set (pv n i).1 (pv n i).2
          (some (!test && (Model.bchTypeInfo ((level <<< 3) ||| mask)).testBit i))) m)).set (n - 8) 8 (some (!test)) := by
  have e1 : ∀ (b : Bool) (m : Model.Mat) (i : Nat),
      (if i < 6 then m.set i 8 (some b) else if i < 8 then m.set (i + 1) 8 (some b) else m.set (n - 15 + i) 8 (some b)) =
        m.set (pv n i).1 (pv n i).2 (some b) := by
    intro b m i; simp only [pv]; split
    · rfl
    · split <;> rfl
  have e2 : ∀ (b : Bool) (m : Model.Mat) (i : Nat),
      (if i < 8 then m.set 8 (n - i - 1) (some b) else if i < 9 then m.set 8 (15 - i - 1 + 1) (some b)
        else m.set 8 (15 - i - 1) (some b)) = m.set (ph n i).1 (ph n i).2 (some b) := by
    intro b m i; simp only [ph]; split
    · rfl
    · split <;> rfl
  simp only [Model.setupTypeInfo, e1, e2]

theorem setupTypeNumber_eq (n v : Nat) (hn : 21 ≤ n) (m : Model.Mat) (test : Bool) :
    Model.setupTypeNumber n v m test =
      (List.range 18).foldl (fun m i => m.set (ver2At n i).1 (ver2At n i).2
          (some (!test && (Model.bchTypeNumber v).testBit i)))
        ((List.range 18).foldl (fun m i => m.set (ver1At n i).1 (ver1At n i).2
          (some (!test && (Model.bchTypeNumber v).testBit i))) m) := by
  have e : ∀ i, i % 3 + n - 8 - 3 = n - 11 + i % 3 := fun i => by omega
  simp only [Model.setupTypeNumber, ver1At, ver2At, e]

theorem isSome_at {G : Nat → Nat → Option Bool} {r c : Nat} {p : Nat × Nat} {x : Bool} (h : (r, c) = p)
    (hG : G p.1 p.2 = some x) : (G r c).isSome = true := by
  subst h; exact (congrArg Option.isSome hG).trans rfl

/-- **C04, writer side**: after `setup_type_info` (and `setup_type_number` for versions ≥ 7) every cell of the
    matrix holds what `Spec.infoCell` prescribes (the bit of the ISO format / version word assigned to that
    module, or the dark module), and every other cell is untouched -/
theorem typeInfo_get (v level mask : Nat) (test : Bool) (m : Model.Mat)
    (hv1 : 1 ≤ v) (hv40 : v ≤ 40) (hl : level < 4) (hk : mask < 8) (hm : MatShape m (Spec.size v)) :
    let n := Spec.size v
    let m' := (if v ≥ 7 then Model.setupTypeNumber n v (Model.setupTypeInfo n level m test mask) test
               else Model.setupTypeInfo n level m test mask)
    MatShape m' n ∧ ∀ r c, r < n → c < n →
      m'.get r c = (match Spec.infoCell v level mask test r c with
                    | some b => some b
                    | none => m.get r c) := by
  intro n m'
  have hfw : Model.bchTypeInfo ((level <<< 3) ||| mask) = Spec.formatWord (level * 8 + mask) := by
    rw [formatData_eq level mask hk]; exact Props.C04_bch15 _ (by omega)
  have hvw : Model.bchTypeNumber v = Spec.versionWord v := Props.C04_bch18 v (by omega)
  have hn : 21 ≤ n := Spec.size_ge hv1
  have hG1 := fun (h7 : 7 ≤ v) i (hi : i < 18) =>
    infoCell_ver1 v level mask test hv1 h7 (getElem?_map_range (ver1At n) hi)
  have hG2 := fun (h7 : 7 ≤ v) i (hi : i < 18) =>
    infoCell_ver2 v level mask test hv1 h7 (getElem?_map_range (ver2At n) hi)
  -- every write of either function puts the value of `Spec.infoCell` into its cell
  have PI : Model.Paints n (fun m => Model.setupTypeInfo n level m test mask)
      (fun r c => ((∃ i, i < 15 ∧ (r, c) = pv n i) ∨ (∃ i, i < 15 ∧ (r, c) = ph n i)) ∨ (r = n - 8 ∧ c = 8))
      (Spec.infoCell v level mask test) := by
    intro m hm
    dsimp only
    rw [setupTypeInfo_eq, hfw]
    exact (((Model.Paints.range_set (pv n) 15 (infoCell_pv v level mask test hv1)).comp
      (Model.Paints.range_set (ph n) 15 (infoCell_ph v level mask test hv1))).comp
      (Model.Paints.set (n - 8) 8 _ fun _ _ => infoCell_dark v level mask test hv1)) m hm
  have PN : Model.Paints n (fun m => if v ≥ 7 then Model.setupTypeNumber n v m test else m)
      (fun r c => 7 ≤ v ∧ ((∃ i, i < 18 ∧ (r, c) = ver1At n i) ∨ (∃ i, i < 18 ∧ (r, c) = ver2At n i)))
      (Spec.infoCell v level mask test) := by
    by_cases h7 : 7 ≤ v
    · simp only [ge_iff_le, h7, if_true, true_and]
      intro m hm
      dsimp only
      rw [setupTypeNumber_eq n v hn, hvw]
      exact ((Model.Paints.range_set (ver1At n) 18 (hG1 h7)).comp
        (Model.Paints.range_set (ver2At n) 18 (hG2 h7))) m hm
    · simp only [ge_iff_le, h7, if_false, false_and]
      exact Model.Paints.id n _
  -- ... and `Spec.infoCell` is defined at no other cell
  have P := PI.comp PN
  refine ⟨P.shape hm, fun r c hr hc => P.get_option (fun r c _ _ => ⟨?_, fun h => ?_⟩) hm hr hc⟩
  · rintro (((⟨i, hi, h⟩ | ⟨i, hi, h⟩) | ⟨rfl, rfl⟩) | ⟨h7, ⟨i, hi, h⟩ | ⟨i, hi, h⟩⟩)
    · exact isSome_at h (infoCell_pv v level mask test hv1 i hi)
    · exact isSome_at h (infoCell_ph v level mask test hv1 i hi)
    · rw [infoCell_dark v level mask test hv1]; rfl
    · exact isSome_at h (hG1 h7 i hi)
    · exact isSome_at h (hG2 h7 i hi)
  · have idx : ∀ {k : Nat} {pos : Nat → Nat × Nat}, (r, c) ∈ (List.range k).map pos → ∃ i, i < k ∧ (r, c) = pos i :=
      fun hm => let ⟨i, hi, e⟩ := List.mem_map.1 hm; ⟨i, List.mem_range.1 hi, e.symm⟩
    rcases (infoCell_isSome_iff_mem v level mask test r c).1 h with hf | hd | ⟨h7, hg⟩
    · rcases List.mem_append.1 hf with hf | hf
      · obtain ⟨i, hi, e⟩ := idx (fmtPos1_eq ▸ hf)
        by_cases h8 : i < 8
        · exact Or.inl (Or.inl (Or.inl ⟨i, hi, by rw [pv_eq, if_pos h8]; exact e⟩))
        · exact Or.inl (Or.inl (Or.inr ⟨i, hi, by rw [ph_eq, if_neg h8]; exact e⟩))
      · obtain ⟨i, hi, e⟩ := idx hf
        by_cases h8 : i < 8
        · exact Or.inl (Or.inl (Or.inr ⟨i, hi, by rw [ph_eq, if_pos h8]; exact e⟩))
        · exact Or.inl (Or.inl (Or.inl ⟨i, hi, by rw [pv_eq, if_neg h8]; exact e⟩))
    · simp only [Spec.isDarkModule, Bool.and_eq_true, beq_iff_eq] at hd
      exact Or.inl (Or.inr hd)
    · exact Or.inr ⟨h7, (List.mem_append.1 hg).imp idx idx⟩

theorem wordAt_aux (S : Spec.Sym) : ∀ (ps : List (Nat × Nat)) (off w : Nat), w < 2 ^ ps.length →
    (∀ i r c, ps[i]? = some (r, c) → S.get r c = w.testBit i) →
    ((ps.zipIdx off).map fun ((r, c), i) => if S.get r c then 2 ^ i else 0).sum = 2 ^ off * w := by
  intro ps
  induction ps with
  | nil =>
    intro off w hw _
    have : w = 0 := by simpa using hw
    subst this
    rfl
  | cons p ps ih =>
    intro off w hw h
    have hw' : w / 2 < 2 ^ ps.length := by
      simp only [List.length_cons, Nat.pow_succ] at hw
      omega
    simp only [List.zipIdx_cons, List.map_cons, List.sum_cons]
    rw [ih (off + 1) (w / 2) hw' fun i r c hi => by rw [h (i + 1) r c (by simpa using hi), Nat.testBit_succ],
      h 0 p.1 p.2 rfl, Nat.testBit_zero, Nat.pow_succ, Nat.mul_assoc]
    conv => rhs; rw [← Nat.div_add_mod w 2, Nat.mul_add]
    rcases Nat.mod_two_eq_zero_or_one w with hb | hb
    · simp [hb]
    · simp [hb, Nat.add_comm]

theorem wordAt_eq (S : Spec.Sym) {ps : List (Nat × Nat)} {w : Nat} (hw : w < 2 ^ ps.length)
    (h : ∀ i r c, ps[i]? = some (r, c) → S.get r c = w.testBit i) : Spec.wordAt S ps = w := by
  have := wordAt_aux S ps 0 w hw h
  simpa [Spec.wordAt] using this

theorem formatWord_lt (d : Nat) (hd : d < 32) : Spec.formatWord d < 2 ^ 15 := (Props.C04_spec_format_sound d hd).2.2

/-- from `versionWord v >>> 12 = v` -/
theorem versionWord_lt (v : Nat) (hv : v < 64) : Spec.versionWord v < 2 ^ 18 := by
  have h := (Props.C04_spec_version_sound v hv).2
  rw [Nat.shiftRight_eq_div_pow] at h
  omega

theorem find_range_of_inj (f : Nat → Nat) (n d0 : Nat) (hd : d0 < n) (hinj : ∀ d, d < n → f d = f d0 → d = d0) :
    (List.range n).find? (fun d => f d == f d0) = some d0 := by
  rw [List.find?_eq_some_iff_getElem]
  refine ⟨by simp, d0, by simpa using hd, by simp, fun j hj => ?_⟩
  have : f j ≠ f d0 := fun h => by have := hinj j (by omega) h; omega
  simpa using this

/-- the format words are pairwise distinct (each carries its data bits, `C04_spec_format_sound`), so the reader's
    search finds the data bits back -/
theorem find_formatWord (d0 : Nat) (hd : d0 < 32) :
    (List.range 32).find? (fun d => Spec.formatWord d == Spec.formatWord d0) = some d0 := by
  refine find_range_of_inj Spec.formatWord 32 d0 hd fun d hd' h => ?_
  rw [← (Props.C04_spec_format_sound d hd').2.1, h, (Props.C04_spec_format_sound d0 hd).2.1]

/-- **C04, reader side (format)**: a symbol whose format cells hold the bits of the ISO format word of
    (level, mask) is read back as that level and mask -/
theorem readFormat_ok (S : Spec.Sym) (level mask : Nat) (l : Spec.Level) (hl : level < 4) (hk : mask < 8)
    (hlv : Spec.Level.ofIndicator level = some l)
    (h1 : ∀ i r c, Spec.fmtPos1[i]? = some (r, c) →
      S.get r c = (Spec.formatWord (level * 8 + mask)).testBit i)
    (h2 : ∀ i r c, (Spec.fmtPos2 S.n)[i]? = some (r, c) →
      S.get r c = (Spec.formatWord (level * 8 + mask)).testBit i) :
    Spec.wordAt S Spec.fmtPos1 = Spec.formatWord (level * 8 + mask) ∧
    Spec.wordAt S (Spec.fmtPos2 S.n) = Spec.formatWord (level * 8 + mask) ∧
    Spec.readFormat S = .ok (l, mask) := by
  have hd : level * 8 + mask < 32 := by omega
  have w1 : Spec.wordAt S Spec.fmtPos1 = Spec.formatWord (level * 8 + mask) :=
    wordAt_eq S (by rw [(fmtPos_length 0).1]; exact formatWord_lt _ hd) h1
  have w2 : Spec.wordAt S (Spec.fmtPos2 S.n) = Spec.formatWord (level * 8 + mask) :=
    wordAt_eq S (by rw [(fmtPos_length S.n).2]; exact formatWord_lt _ hd) h2
  refine ⟨w1, w2, ?_⟩
  have e1 : (level * 8 + mask) / 8 = level := by omega
  have e2 : (level * 8 + mask) % 8 = mask := by omega
  simp only [Spec.readFormat, w1, w2, ne_eq, not_true_eq_false, if_false, find_formatWord _ hd, e1, e2, hlv]

/-- **C04, reader side (version)** -/
theorem versionInfoOK_true (S : Spec.Sym) (v : Nat) (hv : v ≤ 40)
    (h : 7 ≤ v →
      (∀ i r c, (Spec.verPos1 S.n)[i]? = some (r, c) → S.get r c = (Spec.versionWord v).testBit i) ∧
      (∀ i r c, (Spec.verPos2 S.n)[i]? = some (r, c) → S.get r c = (Spec.versionWord v).testBit i)) :
    Spec.versionInfoOK S v = true := by
  simp only [Spec.versionInfoOK, Bool.or_eq_true, decide_eq_true_eq, Bool.and_eq_true, beq_iff_eq]
  by_cases h7 : v < 7
  · exact Or.inl h7
  · right
    obtain ⟨h1, h2⟩ := h (by omega)
    have hw := versionWord_lt v (by omega)
    exact ⟨wordAt_eq S (by rw [(verPos_length S.n).1]; exact hw) h1,
           wordAt_eq S (by rw [(verPos_length S.n).2]; exact hw) h2⟩

/-- **C04, both sides joined**: any symbol that agrees with `Spec.infoCell` (test = false) on the cells where it
    is defined is read back with the right level and mask, and passes the version-information check -/
theorem reader_of_infoCell (S : Spec.Sym) (v level mask : Nat) (l : Spec.Level)
    (hv1 : 1 ≤ v) (hv40 : v ≤ 40) (hl : level < 4) (hk : mask < 8)
    (hlv : Spec.Level.ofIndicator level = some l) (hn : S.n = Spec.size v)
    (hS : ∀ r c b, Spec.infoCell v level mask false r c = some b → S.get r c = b) :
    Spec.readFormat S = .ok (l, mask) ∧ Spec.versionInfoOK S v = true := by
  have get : ∀ {w i r c : Nat}, Spec.infoCell v level mask false r c = some (!false && w.testBit i) → S.get r c = w.testBit i :=
    fun h => hS _ _ _ (by simpa using h)
  constructor
  · refine (readFormat_ok S level mask l hl hk hlv ?_ ?_).2.2
    · exact fun i r c hi => get (infoCell_fmt1 v level mask false hv1 hi)
    · exact fun i r c hi => get (infoCell_fmt2 v level mask false hv1 (hn ▸ hi))
  · refine versionInfoOK_true S v hv40 fun h7 => ⟨?_, ?_⟩
    · exact fun i r c hi => get (infoCell_ver1 v level mask false hv1 h7 (hn ▸ hi))
    · exact fun i r c hi => get (infoCell_ver2 v level mask false hv1 h7 (hn ▸ hi))

theorem info_not_finder (v r c : Nat) (hv1 : 1 ≤ v)
    (h : Spec.inFormat (Spec.size v) r c = true ∨ Spec.inVersion v (Spec.size v) r c = true ∨
      Spec.isDarkModule (Spec.size v) r c = true) : Spec.inFinderArea (Spec.size v) r c = false := by
  have hn := Spec.size_ge hv1
  rw [← Bool.not_eq_true, Spec.inFinderArea_iff]
  revert h
  simp only [Spec.cheb_le_iff, Spec.inFormat, Spec.inVersion, Spec.isDarkModule, Bool.and_eq_true, Bool.or_eq_true,
    decide_eq_true_eq, beq_iff_eq, bne_iff_ne, ne_eq]
  omega

theorem info_not_timing (v r c : Nat)
    (h : Spec.inFormat (Spec.size v) r c = true ∨ Spec.inVersion v (Spec.size v) r c = true ∨
      Spec.isDarkModule (Spec.size v) r c = true) : Spec.inTiming (Spec.size v) r c = false := by
  revert h
  simp only [Spec.inFormat, Spec.inVersion, Spec.isDarkModule, Spec.inTiming, Spec.size]
  grind

theorem info_not_alignment (v r c : Nat) (hv1 : 1 ≤ v) (hv40 : v ≤ 40)
    (h : Spec.inFormat (Spec.size v) r c = true ∨ Spec.inVersion v (Spec.size v) r c = true ∨
      Spec.isDarkModule (Spec.size v) r c = true) : Spec.inAlignment v r c = false := by
  cases ha : Spec.alignOf v r c with
  | none => simp only [Spec.inAlignment, ha, Option.isSome_none]
  | some p =>
    obtain ⟨hr0, hc0, hw, hx⟩ := alignOf_some (r0 := p.1) (c0 := p.2) ha
    have h1 := alignmentCentres_mem hv1 hv40 hr0
    have h2 := alignmentCentres_mem hv1 hv40 hc0
    rw [Spec.cheb_le_iff] at hw
    revert h hx
    simp only [Spec.inFormat, Spec.inVersion, Spec.isDarkModule, Spec.size, Excluded]
    grind

/-- the cells written by `setup_type_info` / `setup_type_number` are still `None` in the cached blank matrix -/
theorem blankCell_none_of_info (v r c : Nat) (hv1 : 1 ≤ v) (hv40 : v ≤ 40)
    (h : Spec.inFormat (Spec.size v) r c = true ∨ Spec.inVersion v (Spec.size v) r c = true ∨
      Spec.isDarkModule (Spec.size v) r c = true) : Spec.blankCell v r c = none := by
  simp only [Spec.blankCell, info_not_finder v r c hv1 h, info_not_alignment v r c hv1 hv40 h,
    info_not_timing v r c h, Bool.false_eq_true, if_false]

end QR.GeoB
