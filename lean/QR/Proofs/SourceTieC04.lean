import QR.Gen.Code
import QR.Model.Matrix
import QR.Proofs.Lists
/-
Translation validation (plugin `tools/t2_fragments/frag_a.py`) for `util.BCH_digit`, `util.BCH_type_info`, `util.BCH_type_number` and
the write loops of `QRCode.setup_type_info` / `setup_type_number`.  The fragments `QR.Gen.Code.bch_*`, `const_G*`, `type_info_*`,
`type_number_*` come from the Python AST.  Here: the loop skeletons the bridges are stated with (`whileFuel`, `While`; `writeLoop`:
for every write loop the translator emits the range and ONE function of the loop index giving the written cell, in Int coordinates
exactly as Python computes them, and the written value), the facts about the Model, and the division loop for any generator
(`bchRem_src`).  The bridge theorems are its instances, in Props/C04.lean (`C04_source_*`).
At the end: the `…Src` assemblies the capstones of C04 are stated with.
-/
namespace QR.SourceTieA
open QR.Model QR.Gen.Code

/-- generic fuel-bounded Python `while cond(s): s = step(s)` -/
def whileFuel {σ : Type} (cond : σ → Bool) (step : σ → σ) : Nat → σ → σ
  | 0, s => s
  | fuel + 1, s => if cond s then whileFuel cond step fuel (step s) else s

/-- big-step semantics of the `while` statement (no fuel): the loop started in `s` terminates in `s'` -/
inductive While {σ : Type} (cond : σ → Bool) (step : σ → σ) : σ → σ → Prop
  | exit {s} : cond s = false → While cond step s s
  | iter {s s'} : cond s = true → While cond step (step s) s' → While cond step s s'

/-- a fuel-bounded run that ends in a state refuting the condition is a terminating run of the `while` statement -/
theorem While.of_fuel {σ : Type} {cond : σ → Bool} {step : σ → σ} {fuel : Nat} {s : σ}
    (h : cond (whileFuel cond step fuel s) = false) : While cond step s (whileFuel cond step fuel s) := by
  induction fuel generalizing s with
  | zero => exact .exit h
  | succ fuel ih =>
    unfold whileFuel at h ⊢
    by_cases hc : cond s = true
    · rw [if_pos hc] at h ⊢
      exact .iter hc (ih h)
    · rw [if_neg hc] at h ⊢
      exact .exit h

theorem While.det {σ : Type} {cond : σ → Bool} {step : σ → σ} {s a b : σ}
    (ha : While cond step s a) (hb : While cond step s b) : a = b := by
  induction ha with
  | exit h =>
    cases hb with
    | exit _ => rfl
    | iter h' _ => rw [h] at h'; cases h'
  | iter h _ ih =>
    cases hb with
    | exit h' => rw [h] at h'; cases h'
    | iter _ hb' => exact ih hb'

theorem consts_src : const_G15 = Gen.G15 ∧ const_G18 = Gen.G18 ∧ const_G15_MASK = Gen.G15_MASK := ⟨rfl, rfl, rfl⟩

theorem bchDigit_zero : bchDigit 0 = 0 := by simp [bchDigit]

theorem bchDigit_succ_shift (d : Nat) (h : d ≠ 0) : bchDigit d = bchDigit (d >>> 1) + 1 := by
  unfold bchDigit
  rw [if_neg h, Nat.shiftRight_eq_div_pow, Nat.pow_one]
  by_cases h2 : d / 2 = 0
  · rw [if_pos h2]
    have : d = 1 := by omega
    subst this; decide
  · rw [if_neg h2]
    rw [Nat.log2_def d]
    have : 2 ≤ d := by omega
    rw [if_pos this]

theorem bchDigit_le_iff (d k : Nat) : bchDigit d ≤ k ↔ d < 2 ^ k := by
  unfold bchDigit
  by_cases h : d = 0
  · subst h; simp [Nat.two_pow_pos]
  · rw [if_neg h]
    have := Nat.log2_lt (n := d) (k := k) h
    omega

theorem lt_two_pow_bchDigit (d : Nat) : d < 2 ^ bchDigit d := (bchDigit_le_iff d _).1 (Nat.le_refl _)

theorem two_pow_le_of_digit (d k : Nat) (h : bchDigit d = k + 1) : 2 ^ k ≤ d := by
  apply Nat.le_of_not_lt
  intro hlt
  have := (bchDigit_le_iff d k).2 hlt
  omega

/-- state of the `BCH_digit` loop is `(data, digit)` -/
def digitCond (s : Nat × Nat) : Bool := bch_digit_cond s.1 s.2
def digitStep (s : Nat × Nat) : Nat × Nat := bch_digit_step s.1 s.2

theorem digitLoop_eq (fuel : Nat) : ∀ data digit : Nat, bchDigit data ≤ fuel →
    whileFuel digitCond digitStep fuel (data, digit) = (0, digit + bchDigit data) := by
  induction fuel with
  | zero =>
    intro data digit h
    have h0 : data = 0 := by
      have := (bchDigit_le_iff data 0).1 h
      omega
    subst h0
    simp [whileFuel, bchDigit_zero]
  | succ fuel ih =>
    intro data digit h
    unfold whileFuel
    by_cases h0 : data = 0
    · subst h0
      simp [digitCond, bch_digit_cond, bchDigit_zero]
    · have hs := bchDigit_succ_shift data h0
      have hc : digitCond (data, digit) = true := by simp [digitCond, bch_digit_cond, h0]
      rw [if_pos hc]
      have : digitStep (data, digit) = (data >>> 1, digit + 1) := rfl
      rw [this, ih (data >>> 1) (digit + 1) (by omega)]
      simp only [Prod.mk.injEq, true_and]
      omega

/-- **BCH_digit**: for every argument and every sufficient fuel (`data < 2 ^ fuel`), running the translated loop
    (`digit = 0; while data != 0: digit += 1; data >>= 1; return digit`) yields `Model.bchDigit data`, and the loop has
    exited (its condition is false in the final state). -/
theorem bchDigit_src (data fuel : Nat) (h : data < 2 ^ fuel) :
    let s := whileFuel digitCond digitStep fuel (bch_digit_init data)
    bchDigit data = bch_digit_result s.1 s.2 ∧ digitCond s = false := by
  have := digitLoop_eq fuel data 0 ((bchDigit_le_iff data fuel).2 h)
  simp only [bch_digit_init]
  rw [this]
  simp [bch_digit_result, digitCond, bch_digit_cond]

/-- one step of the division strictly lowers the degree -/
theorem bchDigit_xor_lt (g d : Nat) (hg : g ≠ 0) (h : bchDigit d ≥ bchDigit g) :
    bchDigit (d ^^^ (g <<< (bchDigit d - bchDigit g))) < bchDigit d := by
  have hgpos : 1 ≤ bchDigit g := by
    apply Nat.le_of_not_lt
    intro hlt
    have := (bchDigit_le_iff g 0).1 (by omega)
    omega
  obtain ⟨k, hk⟩ : ∃ k, bchDigit d = k + 1 := ⟨bchDigit d - 1, by omega⟩
  obtain ⟨j, hj⟩ : ∃ j, bchDigit g = j + 1 := ⟨bchDigit g - 1, by omega⟩
  have hjk : j ≤ k := by omega
  rw [hk, hj]
  have hd1 := two_pow_le_of_digit d k hk
  have hd2 : d < 2 ^ (k + 1) := hk ▸ lt_two_pow_bchDigit d
  have hg1 := two_pow_le_of_digit g j hj
  have hg2 : g < 2 ^ (j + 1) := hj ▸ lt_two_pow_bchDigit g
  have hsh : k + 1 - (j + 1) = k - j := by omega
  rw [hsh]
  have e1 : 2 ^ k = 2 ^ j * 2 ^ (k - j) := by rw [← Nat.pow_add]; congr 1; omega
  have e2 : 2 ^ (k + 1) = 2 ^ (j + 1) * 2 ^ (k - j) := by rw [← Nat.pow_add]; congr 1; omega
  have hp : 0 < 2 ^ (k - j) := Nat.two_pow_pos _
  have hs1 : 2 ^ k ≤ g <<< (k - j) := by
    rw [Nat.shiftLeft_eq, e1]; exact Nat.mul_le_mul_right _ hg1
  have hs2 : g <<< (k - j) < 2 ^ (k + 1) := by
    rw [Nat.shiftLeft_eq, e2]; exact Nat.mul_lt_mul_of_pos_right hg2 hp
  have hx : d ^^^ (g <<< (k - j)) < 2 ^ k := by
    apply Nat.lt_pow_two_of_testBit
    intro i hi
    rw [Nat.testBit_xor]
    by_cases hik : i = k
    · subst hik
      -- both numbers have exactly `i + 1` bits: their top bits cancel
      rw [Nat.testBit_of_two_pow_le_and_two_pow_add_one_gt hd1 hd2,
        Nat.testBit_of_two_pow_le_and_two_pow_add_one_gt hs1 hs2]
      rfl
    · have hlt : 2 ^ (k + 1) ≤ 2 ^ i := Nat.pow_le_pow_right (by omega) (by omega)
      rw [Nat.testBit_lt_two_pow (Nat.lt_of_lt_of_le hd2 hlt),
          Nat.testBit_lt_two_pow (Nat.lt_of_lt_of_le hs2 hlt)]; rfl
  have := (bchDigit_le_iff (d ^^^ (g <<< (k - j))) k).2 hx
  omega

/-- with fuel above the degree of `d` the Model's loop has exited: the result has degree below `g` -/
theorem bchRem_exit (g : Nat) (hg : g ≠ 0) : ∀ fuel d, bchDigit d < fuel →
    ¬ (bchDigit (bchRem g fuel d) ≥ bchDigit g) := by
  intro fuel
  induction fuel with
  | zero => intro d h; omega
  | succ fuel ih =>
    intro d h
    unfold bchRem
    by_cases hc : bchDigit d ≥ bchDigit g
    · rw [if_pos hc]
      exact ih _ (by have := bchDigit_xor_lt g d hg hc; omega)
    · rw [if_neg hc]; exact hc

theorem bchRem_eq_while {g : Nat} {cond : Nat → Bool} {step : Nat → Nat}
    (hc : ∀ d, cond d = decide (bchDigit d ≥ bchDigit g))
    (hs : ∀ d, step d = d ^^^ (g <<< (bchDigit d - bchDigit g))) :
    ∀ fuel d, bchRem g fuel d = whileFuel cond step fuel d := by
  intro fuel
  induction fuel with
  | zero => intro d; rfl
  | succ fuel ih =>
    intro d
    unfold bchRem whileFuel
    rw [hc d]
    by_cases h : bchDigit d ≥ bchDigit g
    · rw [if_pos h, if_pos (by simpa using h), hs d, ih]
    · rw [if_neg h, if_neg (by simpa using h)]

/-- the division loop of `BCH_type_info` / `BCH_type_number`, for any generator: a `while` whose test and body are the
    Model's, run with the Model's fuel, computes `bchRem` and has exited -/
theorem bchRem_src (g : Nat) (hg : g ≠ 0) {cond : Nat → Bool} {step : Nat → Nat}
    (hc : ∀ d, cond d = decide (bchDigit d ≥ bchDigit g))
    (hs : ∀ d, step d = d ^^^ (g <<< (bchDigit d - bchDigit g))) (d0 : Nat) :
    whileFuel cond step (bchDigit d0 + 1) d0 = bchRem g (bchDigit d0 + 1) d0 ∧
      cond (whileFuel cond step (bchDigit d0 + 1) d0) = false := by
  have hw := bchRem_eq_while hc hs
  refine ⟨(hw _ _).symm, ?_⟩
  rw [← hw, hc]
  exact decide_eq_false (bchRem_exit g hg _ _ (Nat.lt_succ_self _))

theorem intSub_ge (a b : Nat) : decide ((a : Int) - (b : Int) ≥ 0) = decide (a ≥ b) :=
  decide_eq_decide.2 (by omega)

/-- the translated test and body of the two division loops have the form `bchRem_src` asks for, with `g` = G15, G18 -/
theorem infoCond_eq (data d : Nat) :
    bch_type_info_cond bchDigit data d = decide (bchDigit d ≥ bchDigit Gen.G15) := intSub_ge _ _

theorem infoStep_eq (data d : Nat) :
    bch_type_info_step bchDigit data d = d ^^^ (Gen.G15 <<< (bchDigit d - bchDigit Gen.G15)) := by
  unfold bch_type_info_step
  rw [Int.toNat_sub, consts_src.1]

theorem numberCond_eq (data d : Nat) :
    bch_type_number_cond bchDigit data d = decide (bchDigit d ≥ bchDigit Gen.G18) := intSub_ge _ _

theorem numberStep_eq (data d : Nat) :
    bch_type_number_step bchDigit data d = d ^^^ (Gen.G18 <<< (bchDigit d - bchDigit Gen.G18)) := by
  unfold bch_type_number_step
  rw [Int.toNat_sub, consts_src.2.1]

/-- the statement `self.modules[r][c] = v` for non-negative `r`, `c` -/
def writeCell (m : Mat) (w : (Int × Int) × Bool) : Mat := m.set w.1.1.toNat w.1.2.toNat (some w.2)

/-- `for i in range(a, b): self.modules[r(i)][c(i)] = v(i)` -/
def writeLoop (rng : Nat × Nat) (f : Nat → (Int × Int) × Bool) (m : Mat) : Mat :=
  (List.range' rng.1 (rng.2 - rng.1)).foldl (fun m i => writeCell m (f i)) m

theorem writeLoop_congr (k : Nat) (f : Nat → (Int × Int) × Bool) (g : Mat → Nat → Mat) {m m' : Mat}
    (h : ∀ m i, i < k → g m i = writeCell m (f i)) (hm : m' = m) :
    (List.range k).foldl g m' = writeLoop (0, k) f m := by
  unfold writeLoop
  rw [hm, Nat.sub_zero, ← List.range_eq_range']
  exact foldl_congr (fun a b hb => h a b (List.mem_range.mp hb)) _

end QR.SourceTieA

/-! ### the `…Src` assemblies of the BCH functions and of the two writers of format and version information (for the capstones
    `C04_source_capstone_*`, Props/C04.lean; what an `…Src` definition is: SourceTieC02.lean, last section) -/
namespace QR.CapstoneE2
open QR.Model QR.Gen.Code QR.SourceTieA

/-- `util.BCH_type_info(data)` assembled from the translated initialisation, loop condition, loop body and result expression;
    `digit` = the callee `BCH_digit` (parameter); the `while` statement is run with the fuel of the bridge theorem -/
def bchTypeInfoSrc (digit : Nat → Nat) (data : Nat) : Nat :=
  bch_type_info_result digit data
    (whileFuel (bch_type_info_cond digit data) (bch_type_info_step digit data)
      (digit (bch_type_info_init digit data) + 1) (bch_type_info_init digit data))

/-- `util.BCH_type_number(data)`, same assembly -/
def bchTypeNumberSrc (digit : Nat → Nat) (data : Nat) : Nat :=
  bch_type_number_result digit data
    (whileFuel (bch_type_number_cond digit data) (bch_type_number_step digit data)
      (digit (bch_type_number_init digit data) + 1) (bch_type_number_init digit data))

/-- `QRCode.setup_type_info(test, mask_pattern)` assembled from the translated data word, the two translated write loops and
    the translated fixed module; `bchInfo` = the callee `util.BCH_type_info` (parameter) -/
def setupTypeInfoSrc (bchInfo : Nat → Nat) (n level : Nat) (m : Mat) (test : Bool) (mask : Nat) : Mat :=
  writeCell
    (writeLoop type_info_h_range (type_info_h n test (bchInfo (type_info_data level mask)))
      (writeLoop type_info_v_range (type_info_v n test (bchInfo (type_info_data level mask))) m))
    (type_info_fixed n test)

/-- `QRCode.setup_type_number(test)` assembled from the two translated write loops; `bchNumber` = the callee
    `util.BCH_type_number` (parameter) -/
def setupTypeNumberSrc (bchNumber : Nat → Nat) (n version : Nat) (m : Mat) (test : Bool) : Mat :=
  writeLoop type_number_b_range (type_number_b n test (bchNumber version))
    (writeLoop type_number_a_range (type_number_a n test (bchNumber version)) m)

end QR.CapstoneE2
