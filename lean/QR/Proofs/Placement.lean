import QR.Proofs.MatLemmas
/-
C05, placement: `map_data` over an arbitrary duplicate-free in-bounds traversal writes the bit stream (padded with
zero bits) into exactly the cells that were still `None`, masked by `maskFunc`; reading the same traversal back and
unmasking returns the stream, cut or zero-padded to the number of those cells (`padTake`).
-/
namespace QR.GeoC
open QR.Model

/-- the first `k` bits of `bits`, padded with `false` when `bits` is shorter -/
def padTake : Nat → List Bool → List Bool
  | 0, _ => []
  | k + 1, bits => bits.headD false :: padTake k bits.tail

theorem padTake_length (k : Nat) (bits : List Bool) : (padTake k bits).length = k := by
  induction k generalizing bits with
  | zero => rfl
  | succ k ih => simp [padTake, ih]

theorem padTake_nil (k : Nat) : padTake k [] = List.replicate k false := by
  induction k with
  | zero => rfl
  | succ k ih => simp [padTake, ih, List.replicate_succ]

theorem padTake_append (bits : List Bool) (k : Nat) :
    padTake (bits.length + k) bits = bits ++ List.replicate k false := by
  induction bits with
  | nil => simp [padTake_nil]
  | cons b bits ih =>
    have : (b :: bits).length + k = (bits.length + k) + 1 := by rw [List.length_cons]; omega
    rw [this]
    simp [padTake, ih]

/-- `map_data` with an arbitrary traversal -/
def place (mask : Nat) (ps : List (Nat × Nat)) (m : Mat) (bits : List Bool) : Mat :=
  (ps.foldl (placeCell mask) (m, bits)).1

theorem mapData_eq_place (n : Nat) (m : Mat) (data : List Nat) (mask : Nat) :
    mapData n m data mask = place mask (trav n) m (codewordBits data) := rfl

theorem placeCell_some {mask : Nat} {m : Mat} {bits : List Bool} {p : Nat × Nat} {b : Bool}
    (h : m.get p.1 p.2 = some b) : placeCell mask (m, bits) p = (m, bits) := by
  simp only [placeCell, h]

theorem placeCell_none {mask : Nat} {m : Mat} {bits : List Bool} {p : Nat × Nat}
    (h : m.get p.1 p.2 = none) :
    placeCell mask (m, bits) p =
      (m.set p.1 p.2 (some (xor (bits.headD false) (maskFunc mask p.1 p.2))), bits.tail) := by
  simp only [placeCell, h]

theorem place_nil (mask : Nat) (m : Mat) (bits : List Bool) : place mask [] m bits = m := rfl

theorem place_cons_some {mask : Nat} {m : Mat} {bits : List Bool} {p : Nat × Nat} {b : Bool} (ps : List (Nat × Nat))
    (h : m.get p.1 p.2 = some b) : place mask (p :: ps) m bits = place mask ps m bits := by
  simp only [place, List.foldl_cons, placeCell_some h]

theorem place_cons_none {mask : Nat} {m : Mat} {bits : List Bool} {p : Nat × Nat} (ps : List (Nat × Nat))
    (h : m.get p.1 p.2 = none) :
    place mask (p :: ps) m bits =
      place mask ps (m.set p.1 p.2 (some (xor (bits.headD false) (maskFunc mask p.1 p.2)))) bits.tail := by
  simp only [place, List.foldl_cons, placeCell_none h]

theorem place_shape (mask : Nat) (ps : List (Nat × Nat)) {m : Mat} {n : Nat} (hs : MatShape m n) (bits : List Bool) :
    MatShape (place mask ps m bits) n := by
  induction ps generalizing m bits with
  | nil => exact hs
  | cons p ps ih =>
    cases hm : m.get p.1 p.2 with
    | some b => rw [place_cons_some ps hm]; exact ih hs bits
    | none => rw [place_cons_none ps hm]; exact ih (matShape_set hs) _

/-- cells that already hold a value (function patterns, format and version information) and cells outside the traversal
    are untouched -/
theorem place_get_unchanged (mask : Nat) (ps : List (Nat × Nat)) {m : Mat} {n : Nat} (hs : MatShape m n) (bits : List Bool)
    (r c : Nat) (hq : (m.get r c).isSome = true ∨ (r, c) ∉ ps) : (place mask ps m bits).get r c = m.get r c := by
  induction ps generalizing m bits with
  | nil => rfl
  | cons p ps ih =>
    have hq' : (m.get r c).isSome = true ∨ (r, c) ∉ ps := hq.imp id fun h hmem => h (List.mem_cons_of_mem _ hmem)
    cases hm : m.get p.1 p.2 with
    | some b => rw [place_cons_some ps hm]; exact ih hs bits hq'
    | none =>
      have hne : (r, c) ≠ (p.1, p.2) := by
        intro e
        rcases hq with h | h
        · rw [(Prod.mk.inj e).1, (Prod.mk.inj e).2, hm] at h; cases h
        · exact h (e ▸ List.mem_cons_self ..)
      have e := Mat.get_set_ne hs hne (some (xor (bits.headD false) (maskFunc mask p.1 p.2)))
      rw [place_cons_none ps hm, ih (matShape_set hs) _ (by rw [e]; exact hq'), e]

theorem getD_tail (bits : List Bool) (k : Nat) : bits.tail.getD k false = bits.getD (k + 1) false := by
  cases bits <;> simp

/-- the i-th cell of the traversal, if it was still `None`, receives bit number k (zero past the end of the stream)
    xor the mask, where k is the number of `None` cells met before it -/
theorem place_nth (mask : Nat) (ps : List (Nat × Nat)) (hnd : ps.Nodup) {m : Mat} {n : Nat} (hs : MatShape m n)
    (hin : ∀ p ∈ ps, p.1 < n ∧ p.2 < n) (bits : List Bool) (i : Nat) (hi : i < ps.length)
    (hnone : m.get ps[i].1 ps[i].2 = none) :
    (place mask ps m bits).get ps[i].1 ps[i].2 =
      some (xor (bits.getD ((ps.take i).countP fun p => (m.get p.1 p.2).isNone) false)
                (maskFunc mask ps[i].1 ps[i].2)) := by
  induction ps generalizing m bits i with
  | nil => cases hi
  | cons p ps ih =>
    have hp : p ∉ ps := (List.nodup_cons.mp hnd).1
    have hnd' := (List.nodup_cons.mp hnd).2
    have hin' : ∀ q ∈ ps, q.1 < n ∧ q.2 < n := fun q hq => hin q (List.mem_cons_of_mem _ hq)
    have hpin := hin p (List.mem_cons_self ..)
    cases i with
    | zero =>
      simp only [List.getElem_cons_zero] at hnone ⊢
      rw [place_cons_none ps hnone, place_get_unchanged mask ps (matShape_set hs) _ _ _ (Or.inr hp),
        Mat.get_set_self hs hpin.1 hpin.2]
      simp only [List.take_zero, List.countP_nil, ← List.headD_eq_getD]
    | succ i =>
      have hi' : i < ps.length := by simpa using hi
      simp only [List.getElem_cons_succ] at hnone ⊢
      have hmem : ps[i] ∈ ps := List.getElem_mem hi'
      cases hm : m.get p.1 p.2 with
      | some b =>
        rw [place_cons_some ps hm, ih hnd' hs hin' bits i hi' hnone]
        simp [List.take_succ_cons, hm]
      | none =>
        rw [place_cons_none ps hm]
        have hne : ∀ q ∈ ps, (q.1, q.2) ≠ (p.1, p.2) := fun q hq (e : q = p) => hp (e ▸ hq)
        have hnone' : (m.set p.1 p.2 (some (xor (bits.headD false) (maskFunc mask p.1 p.2)))).get ps[i].1 ps[i].2 = none := by
          rw [Mat.get_set_ne hs (hne _ hmem)]; exact hnone
        rw [ih hnd' (matShape_set hs) hin' _ i hi' hnone']
        have hcount : ((ps.take i).countP fun q =>
              ((m.set p.1 p.2 (some (xor (bits.headD false) (maskFunc mask p.1 p.2)))).get q.1 q.2).isNone) =
            (ps.take i).countP fun q => (m.get q.1 q.2).isNone := by
          apply List.countP_congr
          intro q hq
          rw [Mat.get_set_ne hs (hne q (List.mem_of_mem_take hq))]
        rw [hcount, getD_tail]
        simp [List.take_succ_cons, hm, Nat.add_comm]

/-- **write-then-read round trip**: reading the traversal back at the cells selected by an independent predicate
    `free` (which agrees with "was `None`" on the traversal) and unmasking yields the bit stream, cut or zero-padded to the
    number of such cells -/
theorem read_place (mask : Nat) (free : Nat → Nat → Bool) (ps : List (Nat × Nat)) (hnd : ps.Nodup)
    {m : Mat} {n : Nat} (hs : MatShape m n) (hin : ∀ p ∈ ps, p.1 < n ∧ p.2 < n) (bits : List Bool)
    (hfree : ∀ p ∈ ps, free p.1 p.2 = true ↔ m.get p.1 p.2 = none) :
    ((ps.filter fun p => free p.1 p.2).map fun p =>
        xor (((place mask ps m bits).get p.1 p.2).getD false) (maskFunc mask p.1 p.2)) =
      padTake (ps.countP fun p => free p.1 p.2) bits := by
  induction ps generalizing m bits with
  | nil => rfl
  | cons p ps ih =>
    have hp : p ∉ ps := (List.nodup_cons.mp hnd).1
    have hnd' := (List.nodup_cons.mp hnd).2
    have hin' : ∀ q ∈ ps, q.1 < n ∧ q.2 < n := fun q hq => hin q (List.mem_cons_of_mem _ hq)
    have hpin := hin p (List.mem_cons_self ..)
    cases hm : m.get p.1 p.2 with
    | some b =>
      have hf : free p.1 p.2 = false := by
        have := hfree p (List.mem_cons_self ..); rw [hm] at this; simpa using this
      rw [place_cons_some ps hm]
      simp only [List.filter_cons, hf, List.countP_cons, Bool.false_eq_true, if_false, Nat.add_zero]
      exact ih hnd' hs hin' bits (fun q hq => hfree q (List.mem_cons_of_mem _ hq))
    | none =>
      have hf : free p.1 p.2 = true := (hfree p (List.mem_cons_self ..)).mpr hm
      rw [place_cons_none ps hm]
      simp only [List.filter_cons, hf, if_true, List.countP_cons, List.map_cons, padTake]
      rw [place_get_unchanged mask ps (matShape_set hs) _ _ _ (Or.inr hp), Mat.get_set_self hs hpin.1 hpin.2]
      simp only [Option.getD_some, Bool.xor_assoc, Bool.xor_self, Bool.xor_false]
      congr 1
      apply ih hnd' (matShape_set hs) hin'
      intro q hq
      have hne : (q.1, q.2) ≠ (p.1, p.2) := fun (e : q = p) => hp (e ▸ hq)
      rw [Mat.get_set_ne hs hne]
      exact hfree q (List.mem_cons_of_mem _ hq)

end QR.GeoC
