import QR.Gen.Code
import QR.Gen.Tables
import QR.Model.Cli
import QR.Proofs.Lists
/-
Translation validation for C17 (plugin `frag_c.py`; at the end `gdh_literals`, plugin `frag_d6.py`): qrcode/console_scripts.py.

`QR.Gen.Code.cli_main` is main() after `parser.parse_args`, compiled statement by statement from the AST by
tools/t2_fragments/frag_c.py (plus the module-level dicts, the option table and `get_factory`).  Here the hand-written
decision model `Model.cli` is proved equal to it for every input whose string options are not the empty string; on those the
two differ, and both behaviours are stated (`cli_main_empty_option_src`, `cli_empty_option_model`).
-/
namespace QR.SourceTieT
open QR.Model QR.Gen.Code

/-! ### tables -/

theorem cli_levels_consts_src :
    cli_ERROR_CORRECT_L = Gen.ERROR_CORRECT_L ∧ cli_ERROR_CORRECT_M = Gen.ERROR_CORRECT_M ∧
    cli_ERROR_CORRECT_Q = Gen.ERROR_CORRECT_Q ∧ cli_ERROR_CORRECT_H = Gen.ERROR_CORRECT_H :=
  ⟨rfl, rfl, rfl, rfl⟩

/-- the `error_correction` dict of the source (key order of the source) and the Model's table (sorted) agree on every key -/
theorem cli_error_correction_src (s : String) : Gen.CLI_LEVELS.lookup s = cli_error_correction.lookup s :=
  lookup_congr _ _ (by decide) s

/-- optparse accepts the level letter (`choices=sorted(error_correction.keys())`) iff the Model's table has it -/
theorem cli_choices_src (s : String) : cli_choices_error_correction.contains s = (Gen.CLI_LEVELS.lookup s).isSome := by
  rw [cli_error_correction_src, Bool.eq_iff_iff, List.lookup_isSome_iff, List.contains_iff_mem]
  unfold cli_choices_error_correction cli_sorted
  rw [List.mem_mergeSort, List.mem_map]
  exact ⟨fun ⟨p, hp, e⟩ => ⟨p, hp, beq_iff_eq.2 e.symm⟩, fun ⟨p, hp, e⟩ => ⟨p, hp, (beq_iff_eq.1 e).symm⟩⟩

/-! ### the environment of a `Model.CliInput` -/

/-- the import in `get_factory`: a built-in dotted path imports; any other one does iff the input says so -/
def cliImport (i : CliInput) (path : String) : Option String :=
  if (Gen.CLI_FACTORIES.any fun (_, p) => p == path) || i.importable then some path else none

/-- `getattr(cls, "drawer_aliases", None)` of the class at a dotted path: a dict whose keys are the Model's alias list for that
    path (an entry is identified with its alias) -/
def cliAliases (i : CliInput) (path : String) : Option (List (String × String)) :=
  some ((drawerAliases (some path) i.importedAliases).map fun a => (a, a))

/-- `qr.add_data` calls as Model segments: `optimize` not passed = the default of `QRCode.add_data` read from main.py -/
def cliSegs (qr : cli_QRCode String) : List Seg :=
  qr.add_data_calls.flatMap fun c => addData c.1 ((c.2.map Int.toNat).getD cli_add_data_optimize_default)

/-- what the Model calls the outcome of a run of the translated main(): `parser.error` and an uncaught exception are both a
    failure (non-zero exit status) provided nothing was written before; one `print_ascii`; one `save` to `open(path, "wb")`;
    a flush of stdout followed by one `save` to `sys.stdout.buffer`.  Any other trace of effects has no Model outcome. -/
def cliInterp : cli_Result String String → Option CliOutcome
  | .error [] _ => some .fail
  | .uncaught [] => some .fail
  | .done [.print_ascii qr tty] => some (.ascii tty qr.error_correction (cliSegs qr))
  | .done [.save img (.opened path mode)] =>
      if mode = "wb" then
        some (.image img.qr.image_factory (img.kwargs.lookup "module_drawer") img.qr.error_correction (cliSegs img.qr) (.file path))
      else none
  | .done [.stdout_flush, .save img .stdout_buffer] =>
      some (.image img.qr.image_factory (img.kwargs.lookup "module_drawer") img.qr.error_correction (cliSegs img.qr) .stdout)
  | _ => none

/-- the Model echoes the `--factory` value; the source knows the class it resolved to: compare modulo `resolveFactory` -/
def cliNormalize : CliOutcome → CliOutcome
  | .image f d l s k => .image (f.map resolveFactory) d l s k
  | o => o

/-! ### main() in stages

`cli_main` is in continuation-passing style (every `if` without `else` binds the rest of the function as `k_n`).  Read in
direct style it is four stages: check the level, resolve the factory, resolve the drawer, emit.  The three stages that
look at a string option are named here (each takes the rest of main() as `k`), `cli_main_eq` says main() is their
composition, and each stage is then compared with the Model on its own. -/

section stages
variable {PyStr Fac D Drawer : Type}

/-- `if opts.factory: image_factory = get_factory(...)` inside main()'s `try ... except ValueError` -/
def cliFactory (fac : Option String) (imp : String → Option Fac) (k : Option Fac → cli_Result Fac Drawer) :
    cli_Result Fac Drawer :=
  cli_ifTruthyStr fac (fun f =>
      match cli_get_factory imp ((cli_default_factories.lookup f).getD f) with
      | .ok F => k (some F)
      | .error (.ValueError e) => .error [] e
      | .error _ => .uncaught [])
    (k none)

/-- `if opts.factory_drawer:` ... `kwargs["module_drawer"] = aliases[opts.factory_drawer]` -/
def cliDrawer (aliases : Option (List (String × D))) (drw : Option String) (mk : D → Drawer)
    (k : List (String × Drawer) → cli_Result Fac Drawer) : cli_Result Fac Drawer :=
  cli_ifTruthyStr drw (fun d =>
      cli_ifTruthyDict aliases (fun al =>
          if (al.lookup d).isNone then
            .error [] "f'{opts.factory_drawer} factory drawer not found. Expected {commas(aliases)}'"
          else match al.lookup d with
            | none => .uncaught []
            | some x => k (cli_dict_set [] "module_drawer" (mk x)))
        (.error [] "The selected factory has no drawer aliases."))
    (k [])

/-- `if opts.output: ... elif image_factory is None and (isatty or opts.ascii): ... else: ...` -/
def cliEmit (qr : cli_QRCode Fac) (kwargs : List (String × Drawer)) (out : Option String) (asc tty : Bool) :
    cli_Result Fac Drawer :=
  cli_ifTruthyStr out (fun path => .done [.save ⟨qr, kwargs⟩ (.opened path "wb")])
    (if qr.image_factory.isNone && (tty || asc) then .done [.print_ascii qr (!asc)]
     else .done [.stdout_flush, .save ⟨qr, kwargs⟩ .stdout_buffer])

theorem cli_main_eq (fac drw out : Option String) (opt : Option Int) (lvl : String)
    (asc : Bool) (args : List PyStr) (imp : String → Option Fac) (enc : PyStr → String → String → List Nat) (stdin : List Nat)
    (al : Fac → Option (List (String × D))) (mk : D → Drawer) (tty : Bool) :
    cli_main fac drw opt lvl asc out args imp enc stdin al mk tty =
      if !(cli_choices_error_correction.contains lvl) then .error [] "invalid choice" else
      cliFactory fac imp fun F =>
        match cli_error_correction.lookup lvl with
        | none => .uncaught []
        | some ec =>
          cliDrawer (F.bind al) drw mk fun kw =>
            cliEmit ⟨ec, F, [((args.head?.map fun a => enc a "utf-8" "surrogateescape").getD stdin, opt)]⟩ kw out asc tty := by
  unfold cli_main cliFactory cliDrawer cliEmit
  -- both branches of `if opts.optimize is None` make the same call; `args[0]` exists when `args` is not empty
  cases opt <;> cases args <;> rfl

end stages

/-- `if x:` on an option value that is not the empty string tests for presence -/
private theorem ifTruthyStr_of_ne {R : Type} {x : Option String} (h : x ≠ some "") (t : String → R) (e : R) :
    cli_ifTruthyStr x t e = (x.map t).getD e := by
  cases x with
  | none => rfl
  | some v => exact if_neg fun (hv : v = "") => h (hv ▸ rfl)

/-- `default_factories.get(opts.factory, opts.factory)`: the source's table and the Model's are the same list -/
private theorem resolve_eq (f : String) : (cli_default_factories.lookup f).getD f = resolveFactory f := rfl

theorem interp_cliFactory (i : CliInput) (hf : i.factory ≠ some "") (k : Option String → cli_Result String String) :
    cliInterp (cliFactory i.factory (cliImport i) k) =
      if factoryOK i then cliInterp (k (i.factory.map resolveFactory)) else some .fail := by
  unfold cliFactory factoryOK
  rw [ifTruthyStr_of_ne hf]
  cases i.factory with
  | none => rfl
  | some f =>
    simp only [Option.map_some, Option.getD_some, resolve_eq]
    unfold cli_get_factory cliImport
    cases (resolveFactory f).contains '.' <;>
      cases (Gen.CLI_FACTORIES.any fun x => x.2 == resolveFactory f) || i.importable <;> rfl

private theorem lookup_diag (L : List String) (d : String) :
    (L.map fun a => (a, a)).lookup d = if L.contains d then some d else none := by
  induction L with
  | nil => rfl
  | cons a L ih =>
    simp only [List.map_cons, List.lookup_cons, List.contains_cons]
    by_cases h : d = a
    · subst h; simp
    · have : (d == a) = false := by simpa using h
      rw [this, ih]; simp

private theorem ifTruthyDict_diag {R : Type} (L : List String) (t : List (String × String) → R) (e : R) :
    cli_ifTruthyDict (some (L.map fun a => (a, a))) t e = if L.isEmpty then e else t (L.map fun a => (a, a)) := by
  cases L <;> rfl

private theorem ifTruthyDict_none {R α : Type} (t : List (String × α) → R) (e : R) : cli_ifTruthyDict none t e = e := rfl

private theorem contains_isEmpty (L : List String) (d : String) (h : L.contains d = true) : L.isEmpty = false := by
  cases L with
  | nil => simp at h
  | cons => rfl

theorem drawerAliases_resolve (f : String) (imp : List String) :
    drawerAliases (some f) imp = drawerAliases (some (resolveFactory f)) imp := by
  cases h : Gen.CLI_FACTORIES.lookup f with
  | none => rw [resolveFactory, h]; rfl
  | some _ =>
    -- `f` is one of the shortcuts: the table decides
    obtain ⟨p, hp, e⟩ := List.lookup_isSome_iff.1 (Option.isSome_of_eq_some h)
    rw [beq_iff_eq.1 e]
    simp only [Gen.CLI_FACTORIES, List.mem_cons, List.not_mem_nil, or_false] at hp
    rcases hp with rfl | rfl | rfl | rfl | rfl | rfl <;> rfl

private theorem drawerAliases_none (imp : List String) : drawerAliases none imp = [] := rfl

theorem interp_cliDrawer (i : CliInput) (hd : i.drawer ≠ some "") (k : List (String × String) → cli_Result String String) :
    cliInterp (cliDrawer ((i.factory.map resolveFactory).bind (cliAliases i)) i.drawer id k) =
      if drawerOK i then cliInterp (k (i.drawer.toList.map fun d => ("module_drawer", d))) else some .fail := by
  unfold cliDrawer drawerOK
  rw [ifTruthyStr_of_ne hd]
  cases i.drawer with
  | none => rfl
  | some d =>
    cases i.factory with
    | none => rfl
    | some f =>
      -- the aliases dict is the diagonal of `drawerAliases (some f) _`: `if aliases:` tests `isEmpty`, its lookup is `contains`
      simp only [Option.map_some, Option.bind_some, cliAliases, ← drawerAliases_resolve, ifTruthyDict_diag, lookup_diag]
      rcases Bool.eq_false_or_eq_true ((drawerAliases (some f) i.importedAliases).contains d) with hc | hc
      · simp only [hc, contains_isEmpty _ _ hc]; rfl
      · simp only [hc]
        cases (drawerAliases (some f) i.importedAliases).isEmpty <;> rfl

theorem interp_cliEmit {qr : cli_QRCode String} {kw : List (String × String)} {out : Option String} {asc tty : Bool} :
    out ≠ some "" → cliInterp (cliEmit qr kw out asc tty) = some (
      match out with
      | some path => .image qr.image_factory (kw.lookup "module_drawer") qr.error_correction (cliSegs qr) (.file path)
      | none =>
        if qr.image_factory.isNone && (tty || asc) then .ascii (!asc) qr.error_correction (cliSegs qr)
        else .image qr.image_factory (kw.lookup "module_drawer") qr.error_correction (cliSegs qr) .stdout) := by
  -- the hypothesis stands behind the colon: named in front of it, the `match out` of the statement would abstract it as well
  intro ho
  unfold cliEmit
  rw [ifTruthyStr_of_ne ho]
  cases out with
  | some path => exact if_pos (e := none) (rfl : "wb" = "wb")
  | none => cases qr.image_factory.isNone && (tty || asc) <;> rfl

private theorem optimize_default_eq : cli_add_data_optimize_default = 20 := rfl

private theorem cliSegs_one (ec : Nat) (F : Option String) (data : List Nat) (opt : Option Nat) :
    cliSegs ⟨ec, F, [(data, opt.map Int.ofNat)]⟩ = addData data (opt.getD 20) := by
  cases opt <;> simp [cliSegs, optimize_default_eq]

private theorem lookup_kwargs (o : Option String) :
    (o.toList.map fun d => ("module_drawer", d)).lookup "module_drawer" = o := by
  cases o <;> simp

/-- **console_scripts.main** as it stands in the source = `Model.cli`, for every input, every list of positional arguments and
    every `str.encode`.  Hypotheses: the Model's `arg` is the encoded first argument; the three string options are not the
    empty string (Python treats `--factory ""`, `--factory-drawer ""`, `--output ""` as absent, the Model does not: see
    `cli_main_empty_option_src` and `cli_empty_option_model`). -/
theorem cli_src {PyStr : Type} (i : CliInput) (args : List PyStr) (str_encode : PyStr → String → String → List Nat)
    (harg : i.arg = args.head?.map fun a => str_encode a "utf-8" "surrogateescape")
    (hf : i.factory ≠ some "") (hd : i.drawer ≠ some "") (ho : i.output ≠ some "") :
    cliInterp (cli_main i.factory i.drawer (i.optimize.map Int.ofNat) i.level i.ascii i.output args
        (cliImport i) str_encode i.stdin (cliAliases i) id i.stdoutIsTty)
      = some (cliNormalize (Model.cli i)) := by
  rw [cli_main_eq, cli_choices_src, ← cli_error_correction_src, ← harg]
  unfold Model.cli
  cases Gen.CLI_LEVELS.lookup i.level with
  | none => rfl
  | some l =>
    simp only [Option.isSome_some, Bool.not_true, Bool.false_eq_true, if_false]
    rw [interp_cliFactory i hf, interp_cliDrawer i hd, interp_cliEmit ho, cliSegs_one, lookup_kwargs,
      Option.isNone_map]
    -- both sides are now the same decision tree over these four tests; its sixteen leaves agree literally
    cases factoryOK i <;> cases drawerOK i <;> cases i.output <;>
      cases i.factory.isNone && (i.stdoutIsTty || i.ascii) <;> rfl

/-! ### the excluded inputs: empty option values (Model and source DISAGREE) -/

private theorem ifTruthyStr_none {R : Type} (t : String → R) (e : R) : cli_ifTruthyStr none t e = e := rfl

private theorem ifTruthyStr_empty {R : Type} (t : String → R) (e : R) : cli_ifTruthyStr (some "") t e = e :=
  show (if "" = "" then e else t "") = e from if_pos rfl

/-- source: `--factory ""`, `--factory-drawer ""`, `--output ""` behave exactly as if the option were absent (`if opts.x:`) -/
theorem cli_main_empty_option_src {PyStr Fac D Drawer : Type} (fac drw out : Option String) (opt : Option Int) (lvl : String)
    (asc : Bool) (args : List PyStr) (imp : String → Option Fac) (enc : PyStr → String → String → List Nat) (stdin : List Nat)
    (al : Fac → Option (List (String × D))) (mk : D → Drawer) (tty : Bool) :
    cli_main (some "") drw opt lvl asc out args imp enc stdin al mk tty = cli_main none drw opt lvl asc out args imp enc stdin al mk tty ∧
    cli_main fac (some "") opt lvl asc out args imp enc stdin al mk tty = cli_main fac none opt lvl asc out args imp enc stdin al mk tty ∧
    cli_main fac drw opt lvl asc (some "") args imp enc stdin al mk tty = cli_main fac drw opt lvl asc none args imp enc stdin al mk tty := by
  simp only [cli_main_eq, cliFactory, cliDrawer, cliEmit, ifTruthyStr_empty, ifTruthyStr_none, and_self]

/-- Model: `--factory ""` and `--factory-drawer ""` are failures, `--output ""` writes to the file "" -/
theorem cli_empty_option_model (i : CliInput) (l : Nat) (hl : Gen.CLI_LEVELS.lookup i.level = some l) :
    (i.factory = some "" → Model.cli i = .fail) ∧
    (i.drawer = some "" → i.factory = none → Model.cli i = .fail) ∧
    (i.output = some "" → i.factory = none → i.drawer = none →
      Model.cli i = .image none none l (segsOf i) (.file "")) := by
  refine ⟨fun h => ?_, fun h h' => ?_, fun h h' h'' => ?_⟩
  · have : factoryOK i = false := by
      simp only [factoryOK, h]
      have : resolveFactory "" = "" := by decide
      rw [this]; simp
    simp [cli, hl, this]
  · have h1 : factoryOK i = true := by simp [factoryOK, h']
    have h2 : drawerOK i = false := by simp [drawerOK, h, h', drawerAliases]
    simp [cli, hl, h1, h2]
  · have h1 : factoryOK i = true := by simp [factoryOK, h']
    have h2 : drawerOK i = true := by simp [drawerOK, h'']
    simp [cli, hl, h1, h2, h, h', h'']

end QR.SourceTieT

namespace QR.SourceTieD6
open QR.Gen.Code

/-- the names `console_scripts.get_drawer_help` refers to (what it and `commas` compute is stated in `QR/Props/C17.lean`) -/
theorem gdh_literals : lo_gdh_names = ["default_factories", "get_factory", "ImportError", "drawer_aliases"] := rfl

end QR.SourceTieD6
