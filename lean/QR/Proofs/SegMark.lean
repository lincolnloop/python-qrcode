import QR.Model.Segment
import QR.Spec.Segmentation
import QR.Proofs.Lists
/-
C10 (segmentation), the scanners against the run marker.  `Spec.markLong` with exactly enough fuel is `ML`: its recursion
without fuel (`ML_induction`), marking is local to the stretches between two `false`s (`ML_append`), a marked position needs
`n` trues.  Every chunk list of `splitAnchored` / `splitRuns` is lossless with flagged chunks that are non-empty runs of the
class of the required length (`ChunksOK`), and the positions `splitRuns` flags are those `ML` marks (`splitRuns_spec`).
-/
namespace QR.Seg
open QR.Model
open QR.Spec (markLong)

theorem markLong_true_cons (n f : Nat) (t : List Bool) :
    markLong n (f + 1) (true :: t) =
      List.replicate ((t.takeWhile id).length + 1) (decide (n ≤ (t.takeWhile id).length + 1)) ++
        markLong n f (t.drop (t.takeWhile id).length) := by
  simp only [markLong, List.takeWhile_cons, id, if_true, List.length_cons, List.drop_succ_cons, ge_iff_le]

theorem markLong_nil (n f : Nat) : markLong n f [] = [] := by cases f <;> simp [markLong]

theorem markLong_fuel {n : Nat} : ∀ (f : Nat) (l : List Bool) (f' : Nat), l.length ≤ f → l.length ≤ f' →
    markLong n f l = markLong n f' l := by
  intro f
  induction f with
  | zero =>
    intro l f' h _
    have : l = [] := List.length_eq_zero_iff.mp (by omega)
    subst this; simp [markLong_nil]
  | succ f ih =>
    intro l f' h h'
    cases l with
    | nil => simp [markLong_nil]
    | cons b t =>
      cases f' with
      | zero => simp at h'
      | succ f' =>
        simp only [List.length_cons] at h h'
        cases b with
        | false => simp only [markLong]; rw [ih t f' (by omega) (by omega)]
        | true =>
          rw [markLong_true_cons, markLong_true_cons]
          congr 1
          apply ih <;> simp only [List.length_drop] <;> omega

/-- `markLong` with exactly enough fuel -/
def ML (n : Nat) (l : List Bool) : List Bool := markLong n l.length l

theorem markLong_eq_ML {n f : Nat} {l : List Bool} (h : l.length ≤ f) : markLong n f l = ML n l :=
  markLong_fuel f l l.length h (Nat.le_refl _)

theorem ML_nil (n : Nat) : ML n [] = [] := rfl

theorem ML_false_cons (n : Nat) (B : List Bool) : ML n (false :: B) = false :: ML n B := by
  simp only [ML, List.length_cons, markLong]

theorem ML_true_cons (n : Nat) (t : List Bool) :
    ML n (true :: t) = List.replicate ((t.takeWhile id).length + 1) (decide (n ≤ (t.takeWhile id).length + 1)) ++
      ML n (t.drop (t.takeWhile id).length) := by
  rw [ML, List.length_cons, markLong_true_cons, markLong_eq_ML (by simp only [List.length_drop]; omega)]

theorem takeWhile_length_le (t : List Bool) : (t.takeWhile id).length ≤ t.length :=
  (List.takeWhile_sublist id).length_le

/-- the recursion of `ML`, without fuel: skip a `false`, or mark a whole run of `true` and go on behind it -/
theorem ML_induction {motive : List Bool → Prop} (nil : motive [])
    (false_cons : ∀ t, motive t → motive (false :: t))
    (true_cons : ∀ t, motive (t.drop (t.takeWhile id).length) → motive (true :: t)) : ∀ l, motive l
  | [] => nil
  | false :: t => false_cons t (ML_induction nil false_cons true_cons t)
  | true :: t => true_cons t (ML_induction nil false_cons true_cons _)
termination_by l => l.length
decreasing_by all_goals simp only [List.length_cons, List.length_drop]; omega

theorem ML_length (n : Nat) (l : List Bool) : (ML n l).length = l.length := by
  induction l using ML_induction with
  | nil => rfl
  | false_cons t ih => rw [ML_false_cons, List.length_cons, ih, List.length_cons]
  | true_cons t ih =>
    have := takeWhile_length_le t
    rw [ML_true_cons, List.length_append, List.length_replicate, ih, List.length_drop, List.length_cons]; omega

theorem ML_mem_true {n : Nat} {l : List Bool} : true ∈ ML n l → n ≤ l.count true := by
  induction l using ML_induction with
  | nil => intro h; cases h
  | false_cons t ih =>
    intro h
    rw [ML_false_cons] at h
    simpa using ih (by simpa using h)
  | true_cons t ih =>
    intro h
    rw [ML_true_cons] at h
    rw [List.count_cons_self]
    rcases List.mem_append.mp h with h | h
    · -- the run itself has `n` trues
      have hn : n ≤ (t.takeWhile id).length + 1 := by simpa using (List.mem_replicate.mp h).2.symm
      have hcnt : (t.takeWhile id).count true = (t.takeWhile id).length :=
        List.count_eq_length.mpr fun b hb => by have := of_mem_takeWhile hb; simpa using this.symm
      have := (List.takeWhile_sublist (l := t) id).count_le true
      omega
    · have := (List.drop_sublist (t.takeWhile id).length t).count_le true
      have := ih h
      omega

def StartsFalse (B : List Bool) : Prop := B = [] ∨ ∃ t, B = false :: t

theorem takeWhile_append_of_startsFalse {B : List Bool} (hB : StartsFalse B) :
    ∀ A : List Bool, (A ++ B).takeWhile id = A.takeWhile id
  | [] => by rcases hB with rfl | ⟨t, rfl⟩ <;> rfl
  | true :: A => by simp [takeWhile_append_of_startsFalse hB A]
  | false :: A => by simp

theorem ML_append (n : Nat) {B : List Bool} (hB : StartsFalse B) (A : List Bool) : ML n (A ++ B) = ML n A ++ ML n B := by
  induction A using ML_induction with
  | nil => rfl
  | false_cons t ih => rw [List.cons_append, ML_false_cons, ML_false_cons, ih, List.cons_append]
  | true_cons t ih =>
    rw [List.cons_append, ML_true_cons, ML_true_cons, takeWhile_append_of_startsFalse hB,
      List.drop_append_of_le_length (takeWhile_length_le t), ih, List.append_assoc]

theorem ML_false_append (n k : Nat) (B : List Bool) :
    ML n (List.replicate k false ++ B) = List.replicate k false ++ ML n B := by
  induction k with
  | zero => simp
  | succ k ih => rw [List.replicate_succ, List.cons_append, ML_false_cons, ih, List.cons_append]

theorem ML_replicate_true (n k : Nat) : ML n (List.replicate k true) = List.replicate k (decide (n ≤ k)) := by
  cases k with
  | zero => rfl
  | succ k => rw [List.replicate_succ, ML_true_cons]; simp [ML_nil]

theorem ML_short_true {n : Nat} {l : List Bool} (hl : l.length ≤ n) (h : true ∈ ML n l) : ∀ b ∈ l, b = true := by
  have h1 := ML_mem_true h
  have h2 := List.count_le_length (a := true) (l := l)
  exact fun b hb => (List.count_eq_length.mp (by omega) b hb).symm

theorem eq_replicate_false {L : List Bool} (h : true ∉ L) : L = List.replicate L.length false :=
  List.eq_replicate_iff.mpr ⟨rfl, fun b hb => by cases b; rfl; exact absurd hb h⟩

theorem startsFalse_map_dropWhile (p : Nat → Bool) (l : List Nat) : StartsFalse ((l.dropWhile p).map p) := by
  cases h : l.dropWhile p with
  | nil => exact Or.inl rfl
  | cons c t => exact Or.inr ⟨t.map p, by simp [of_dropWhile_eq_cons h]⟩

/-- what the chunk lists of both scanners (`splitAnchored` with `n = 0`, `splitRuns`) satisfy -/
def ChunksOK (p : Nat → Bool) (n : Nat) (data : List Nat) (cs : List (Bool × List Nat)) : Prop :=
  cs.flatMap (·.2) = data ∧ ∀ x ∈ cs, x.2 ≠ [] ∧ (x.1 = true → (∀ c ∈ x.2, p c = true) ∧ n ≤ x.2.length)

theorem splitAnchored_ok {p : Nat → Bool} (data : List Nat) : ChunksOK p 0 data (splitAnchored p data) := by
  simp only [splitAnchored]
  have hsplit : data.takeWhile p ++ data.dropWhile p = data := List.takeWhile_append_dropWhile
  split
  · rename_i h
    simp only [Bool.and_eq_true, Bool.not_eq_true', List.isEmpty_eq_false_iff] at h
    obtain ⟨h1, _⟩ := h
    constructor
    · by_cases hr : data.dropWhile p = []
      · simp only [hr, List.isEmpty_nil, if_true, List.flatMap_cons, List.flatMap_nil, List.append_nil]
        rw [hr, List.append_nil] at hsplit; exact hsplit
      · simp [hr, hsplit]
    · intro x hx
      rcases List.mem_cons.mp hx with hx | hx
      · subst hx; exact ⟨h1, fun _ => ⟨fun c hc => of_mem_takeWhile hc, Nat.zero_le _⟩⟩
      · by_cases hr : data.dropWhile p = []
        · simp [hr] at hx
        · simp only [List.isEmpty_iff, hr, if_false, List.mem_singleton] at hx
          subst hx; simp [hr]
  · split
    · rename_i h; simp only [List.isEmpty_iff] at h; subst h; simp [ChunksOK]
    · rename_i h; simp only [List.isEmpty_iff] at h; simp [ChunksOK, h]

theorem splitAnchored_all {p : Nat → Bool} {d : List Nat} (hd : d ≠ []) (h : ∀ c ∈ d, p c = true) :
    splitAnchored p d = [(true, d)] := by
  simp [splitAnchored, takeWhile_of_all h, dropWhile_of_all h, hd]

theorem takeWhile_eq_self {α} {p : α → Bool} : ∀ {l : List α}, l.dropWhile p = [] → l.takeWhile p = l := by
  intro l h
  have := List.takeWhile_append_dropWhile (p := p) (l := l)
  rwa [h, List.append_nil] at this

theorem splitAnchored_none {p : Nat → Bool} {d : List Nat} (h : ¬ ∀ c ∈ d, p c = true) (h10 : 10 ∉ d) :
    splitAnchored p d = [(false, d)] := by
  have hd : d ≠ [] := fun e => h (e ▸ fun _ hc => nomatch hc)
  have h1 : d.dropWhile p ≠ [] := fun e => h fun c hc => by
    rw [← takeWhile_eq_self e] at hc
    exact of_mem_takeWhile hc
  have h2 : d.dropWhile p ≠ [10] := by
    intro he
    exact h10 ((List.dropWhile_sublist p).mem (by rw [he]; simp))
  simp [splitAnchored, h1, h2, hd]

/-- what `findRun` returns when the fuel exceeds the length: nothing if no position is marked; otherwise the data cut around
    its first run of the class of length ≥ n, which is where the marks begin -/
theorem findRun_spec (p : Nat → Bool) (n : Nat) : ∀ (fuel : Nat) (data : List Nat), data.length < fuel →
    match findRun p n fuel data with
    | none => ML n (data.map p) = List.replicate data.length false
    | some (pre, run, after) =>
      pre ++ run ++ after = data ∧ run ≠ [] ∧ (∀ c ∈ run, p c = true) ∧ n ≤ run.length ∧ after.length < data.length ∧
        ML n (data.map p) = List.replicate pre.length false ++ (List.replicate run.length true ++ ML n (after.map p)) := by
  intro fuel
  induction fuel with
  | zero => intro data h; omega
  | succ fuel ih =>
    intro data hfuel
    have hsplit : data.takeWhile (fun c => !p c) ++ data.dropWhile (fun c => !p c) = data :=
      List.takeWhile_append_dropWhile
    have hsplit2 : (data.dropWhile (fun c => !p c)).takeWhile p ++ (data.dropWhile (fun c => !p c)).dropWhile p
        = data.dropWhile (fun c => !p c) := List.takeWhile_append_dropWhile
    generalize htw : data.takeWhile (fun c => !p c) = tw at hsplit
    generalize hrest : data.dropWhile (fun c => !p c) = rest at hsplit hsplit2
    generalize hrun : rest.takeWhile p = run at hsplit2
    generalize hafter : rest.dropWhile p = after at hsplit2
    have htwmap : tw.map p = List.replicate tw.length false :=
      List.map_eq_replicate_iff.mpr fun c hc => by have := of_mem_takeWhile (htw ▸ hc); simpa using this
    have hrunp : ∀ c ∈ run, p c = true := fun c hc => of_mem_takeWhile (hrun ▸ hc)
    -- cut in front of the run (all `false` before it) and behind it (`after` starts outside the class)
    have hML : ML n (data.map p) = List.replicate tw.length false ++
        (List.replicate run.length (decide (n ≤ run.length)) ++ ML n (after.map p)) := by
      rw [← hsplit, ← hsplit2, List.map_append, List.map_append, htwmap, List.map_eq_replicate_iff.mpr hrunp, ML_false_append,
        ML_append n (hafter ▸ startsFalse_map_dropWhile p rest), ML_replicate_true]
    have hlen : data.length = tw.length + (run.length + after.length) := by
      rw [← hsplit, ← hsplit2]; simp only [List.length_append]
    simp only [findRun, htw, hrest, hrun, hafter]
    by_cases hre : rest = []
    · subst hre
      subst hrun hafter
      simp only [List.isEmpty_nil, if_true]
      rw [hML, hlen]; simp [ML_nil]
    · have hrunne : run ≠ [] := by
        cases rest with
        | nil => exact absurd rfl hre
        | cons c t =>
          have hc : p c = true := by simpa using of_dropWhile_eq_cons hrest
          rw [← hrun, List.takeWhile_cons_of_pos hc]
          exact List.cons_ne_nil _ _
      have hpos := List.length_pos_iff.mpr hrunne
      simp only [List.isEmpty_iff, hre, if_false]
      by_cases hge : run.length ≥ n
      · rw [if_pos hge]
        refine ⟨by rw [List.append_assoc, hsplit2, hsplit], hrunne, hrunp, hge, by omega, ?_⟩
        rw [hML]; simp [hge]
      · rw [if_neg hge]
        have hge' : decide (n ≤ run.length) = false := by simpa using hge
        have ih' := ih after (by omega)
        cases hrec : findRun p n fuel after with
        | none =>
          rw [hrec] at ih'
          simp only
          rw [hML, ih', hge', hlen]
          simp only [List.replicate_append_replicate]
        | some r =>
          obtain ⟨b, r, a⟩ := r
          rw [hrec] at ih'
          obtain ⟨e1, e2, e3, e4, e5, e6⟩ := ih'
          simp only
          refine ⟨by rw [← hsplit, ← hsplit2, ← e1]; simp only [List.append_assoc], e2, e3, e4, by omega, ?_⟩
          rw [hML, e6, hge']
          simp only [List.length_append, ← List.append_assoc, List.replicate_append_replicate, Nat.add_assoc]

def flagsOf (cs : List (Bool × List Nat)) : List Bool := cs.flatMap fun x => List.replicate x.2.length x.1

/-- an unflagged chunk is last or followed by a non-empty flagged one (the alphanumeric candidates behind it then start with
    `false`, so the inner scan's marks are computed chunk by chunk: `ML_marksOf`) -/
def Alt : List (Bool × List Nat) → Prop
  | [] => True
  | x :: rest => (x.1 = false → rest = [] ∨ ∃ c r, rest = (true, c) :: r ∧ c ≠ []) ∧ Alt rest

theorem splitRuns_spec {p : Nat → Bool} {n : Nat} : ∀ (fuel : Nat) (data : List Nat), data.length ≤ fuel →
    ChunksOK p n data (splitRuns p n fuel data) ∧ Alt (splitRuns p n fuel data) ∧
      flagsOf (splitRuns p n fuel data) = ML n (data.map p) := by
  intro fuel
  induction fuel with
  | zero =>
    intro data h
    have : data = [] := List.length_eq_zero_iff.mp (by omega)
    subst this; simp [splitRuns, ChunksOK, Alt, flagsOf, ML_nil]
  | succ fuel ih =>
    intro data hfuel
    simp only [splitRuns]
    by_cases hd : data = []
    · subst hd; simp [ChunksOK, Alt, flagsOf, ML_nil]
    · simp only [List.isEmpty_iff, hd, if_false]
      have hfr := findRun_spec p n (data.length + 1) data (by omega)
      cases hf : findRun p n (data.length + 1) data with
      | none =>
        rw [hf] at hfr
        simp [ChunksOK, Alt, flagsOf, hd, hfr]
      | some r =>
        obtain ⟨pre, run, after⟩ := r
        rw [hf] at hfr
        obtain ⟨e1, e2, e3, e4, hlt, hML⟩ := hfr
        obtain ⟨⟨i1, i2⟩, ialt, iflags⟩ := ih after (by omega)
        rw [hML, ← iflags]
        by_cases hp : pre = []
        · subst hp
          refine ⟨⟨by simp [i1, ← e1], ?_⟩, by simp [Alt, ialt], by simp [flagsOf]⟩
          intro x hx
          rcases List.mem_cons.mp (by simpa using hx) with rfl | hx
          · exact ⟨e2, fun _ => ⟨e3, e4⟩⟩
          · exact i2 x hx
        · refine ⟨⟨by simp [hp, i1, ← e1], ?_⟩, by simp [Alt, hp, e2, ialt], by simp [flagsOf, hp]⟩
          intro x hx
          simp only [hp, if_false, List.cons_append, List.nil_append, List.mem_cons] at hx
          rcases hx with rfl | rfl | hx
          · simp [hp]
          · exact ⟨e2, fun _ => ⟨e3, e4⟩⟩
          · exact i2 x hx

end QR.Seg
