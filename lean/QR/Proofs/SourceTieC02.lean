import QR.Gen.Code
import QR.Model.Data
import QR.Proofs.Except
import QR.Proofs.Lists
import QR.Proofs.Loops
/-
Translation validation for C02 (plugin `frag_a.py`): `base.gexp`, `glog`, `rs_blocks` (its row loop over slices of three),
`base.Polynomial.__init__`, `__mul__`, `__mod__`, and the index arithmetic of `util.create_bytes`
(`ecCount = rs_block.total_count - dcCount` is a signed Python int, so everything derived from it - `maxEcCount`,
`mod_offset`, `modIndex`, the ranges over `ecCount` / `maxEcCount` - is translated over Int).
Here: the loop skeletons and the lemmas about the Model's recursions; the bridge theorems are in Props/C02.lean (`C02_source_*`).
At the end: the `…Src` assemblies the capstones of C02 are stated with.
-/
namespace QR.SourceTieA
open QR.Model QR.Gen.Code

/-! ### rs_blocks -/

/-- the indices visited by Python's `range(a, b, s)` for `s > 0` -/
def rangeStep (r : Nat × Nat × Nat) : List Nat := List.range' r.1 ((r.2.1 - r.1 + r.2.2 - 1) / r.2.2) r.2.2

/-- Python's `l[a:b]` for `0 ≤ a ≤ b` -/
def slice {α : Type} (l : List α) (ab : Nat × Nat) : List α := (l.drop ab.1).take (ab.2 - ab.1)

/-- body of the outer loop: unpack the slice into three names (ValueError otherwise) and append `count` blocks -/
def rsBody (row : List Nat) (blocks : List (Nat × Nat)) (i : Nat) : R (List (Nat × Nat)) :=
  match slice row (rs_blocks_slice i) with
  | [x0, x1, x2] => pure (blocks ++ List.replicate (rs_blocks_block x0 x1 x2).1 (rs_blocks_block x0 x1 x2).2)
  | _ => .error .valueError

/-- `blocks = []; for i in range(0, len(rs_block), 3): …; return blocks` built from the translated pieces -/
def rsLoop (row : List Nat) : R (List (Nat × Nat)) :=
  (rangeStep (rs_blocks_range row.length)).foldlM (rsBody row) []

/-- the loop body on the slice itself -/
def rsChunk (blocks : List (Nat × Nat)) : List Nat → R (List (Nat × Nat))
  | [x0, x1, x2] => pure (blocks ++ List.replicate (rs_blocks_block x0 x1 x2).1 (rs_blocks_block x0 x1 x2).2)
  | _ => .error .valueError

theorem rsRow_slices : ∀ (fuel : Nat) (l : List Nat) (acc : List (Nat × Nat)), l.length ≤ fuel →
    (Loops.slices 3 l).foldlM rsChunk acc = (rsRow fuel l >>= fun tl => pure (acc ++ tl))
  | _, [], _, _ => by simp [Loops.slices_nil, rsRow]
  | 0, _ :: _, _, h => by simp at h
  | _ + 1, [a], _, _ => by simp [Loops.slices_cons, Loops.slices_nil, rsRow, rsChunk]
  | _ + 1, [a, b], _, _ => by simp [Loops.slices_cons, Loops.slices_nil, rsRow, rsChunk]
  | fuel + 1, x0 :: x1 :: x2 :: rest, acc, h => by
    rw [Loops.slices_cons 3 (by decide), List.foldlM_cons]
    simp only [List.take, List.drop, rsChunk, R.pure_eq, R.bind_ok]
    rw [rsRow_slices fuel rest _ (by simp only [List.length_cons] at h; omega), rsRow]
    cases rsRow fuel rest with
    | error e => rfl
    | ok tl => simp [rs_blocks_block, List.append_assoc]

/-- `hv`: for `version = 0` the Python index is negative (and would count from the end of the table) -/
theorem rs_blocks_row_index_nonneg (version offset : Nat) (hv : 1 ≤ version) : 0 ≤ rs_blocks_row_index version offset := by
  unfold rs_blocks_row_index; omega

/-! ### Polynomial.__init__ -/

/-- Python `v = v0; for v in <indices>: if brk(v): break` : the value of `v` after the loop -/
def forBreak (brk : Nat → Bool) : List Nat → Nat → Nat
  | [], v => v
  | i :: rest, _ => if brk i then i else forBreak brk rest i

/-- the scan `for offset in range(len(num)): if num[offset] != 0: break` leaves the offset at which `stripZ` starts; stated for
    the part `q` of `p ++ q` still to be scanned, so that the induction can hand one element over to the prefix `p` -/
theorem stripZ_eq : ∀ (q p : List Nat) (v : Nat), q ≠ [] →
    (p ++ q).drop (forBreak (fun o => poly_init_break ((p ++ q).getD o 0)) (List.range' p.length q.length) v) = stripZ q
  | [], _, _, h => absurd rfl h
  | [a], p, v, _ => by
    simp only [List.length_cons, List.length_nil, List.range'_succ, List.range'_zero, forBreak, ite_self]
    simp [stripZ]
  | a :: b :: t, p, v, _ => by
    have ih := stripZ_eq (b :: t) (p ++ [a]) p.length (by simp)
    have e1 : p ++ [a] ++ b :: t = p ++ a :: b :: t := by simp
    have e2 : (p ++ [a]).length = p.length + 1 := by simp
    rw [e1, e2] at ih
    rw [show (a :: b :: t).length = (b :: t).length + 1 from rfl, List.range'_succ]
    simp only [forBreak]
    have hget : (p ++ a :: b :: t).getD p.length 0 = a := by simp
    simp only [hget]
    by_cases ha : a ≠ 0
    · have : poly_init_break a = true := by simp [poly_init_break, ha]
      rw [if_pos this]
      simp [stripZ, ha]
    · have : poly_init_break a = false := by simp [poly_init_break] at ha ⊢; exact ha
      rw [this]
      simp only [Bool.false_eq_true, if_false]
      rw [ih]
      simp only [stripZ, if_neg ha]

/-! ### Polynomial.__mod__ -/

/-- Python `l[a:]` for any int `a` (a negative bound counts from the end, clipped at 0) -/
def pySliceFrom {α : Type} (l : List α) (a : Int) : List α :=
  if a < 0 then l.drop ((l.length : Int) + a).toNat else l.drop a.toNat

/-- the comprehension `[item ^ gexp(glog(other_item) + ratio) for item, other_item in zip(self, other)]` -/
def modComp (ratio : Int) (self other : List Nat) : R (List Nat) :=
  (self.zip other).mapM fun p =>
    glog p.2 >>= fun lo => gexp (poly_mod_exponent lo ratio) >>= fun e => pure (poly_mod_elt p.1 e)

theorem modStep_eq (ratio : Int) : ∀ xs ys : List Nat, modStep ratio xs ys = modComp ratio xs ys
  | [], _ => by simp [modStep, modComp]
  | _ :: _, [] => by simp [modStep, modComp]
  | x :: xs, y :: ys => by
    have ih := modStep_eq ratio xs ys
    unfold modComp at ih ⊢
    -- the two sides differ only in how the binds are nested
    simp only [modStep, List.zip_cons_cons, List.mapM_cons, ih, bind_assoc]
    rfl

/-! ### util.create_bytes -/

/-- indices of Python's `range(a, b)` for ints `0 ≤ a` (empty when `b ≤ a`) -/
def rangeI (r : Int × Int) : List Nat := List.range' r.1.toNat (r.2 - r.1).toNat

/-- indices of `range(a, b)` over naturals -/
def rangeN (r : Nat × Nat) : List Nat := List.range' r.1 (r.2 - r.1)

theorem rangeI_zero (n : Nat) : rangeI ((0 : Int), (n : Int)) = List.range n := by
  unfold rangeI
  simp [List.range_eq_range']

theorem rangeN_zero (n : Nat) : rangeN (0, n) = List.range n := by
  unfold rangeN
  simp [List.range_eq_range']

/-- `[0xFF & buffer.buffer[i + offset] for i in range(dcCount)]`: IndexError when the buffer is too short -/
def dcRead (buf : List Nat) (offset dcCount : Nat) : R (List Nat) :=
  (rangeN (cb_dc_range dcCount)).mapM fun i => idx buf (cb_dc_index i offset) >>= fun b => pure (cb_dc_elt b)

/-- the main loop of `create_bytes` over `rs_blocks`, state `offset` -/
def cbLoop (buf : List Nat) : Nat → List (Nat × Nat) → R (List (List Nat × List Nat))
  | _, [] => .ok []
  | offset, (total, data) :: rest =>
    dcRead buf offset (cb_dc_count total data) >>= fun dc =>
    ecOfBlock dc (cb_ec_count total data (cb_dc_count total data)).toNat >>= fun ec =>
    cbLoop buf (cb_offset_step offset (cb_dc_count total data)) rest >>= fun tl =>
    pure ((dc, ec) :: tl)

/-- `[g(l[i + off]) for i in range(s, s + k)]`: IndexError when `l` is too short, `g` over the slice otherwise -/
theorem mapM_idx_range' (g : Nat → Nat) (l : List Nat) (off : Nat) : ∀ (k s : Nat),
    (List.range' s k).mapM (fun i => idx l (i + off) >>= fun b => pure (g b)) =
      if (l.drop (s + off)).length < k then .error .indexError
      else .ok (((l.drop (s + off)).take k).map g)
  | 0, s => by simp
  | k + 1, s => by
    rw [List.range'_succ, List.mapM_cons, mapM_idx_range' g l off k (s + 1)]
    have hd : s + 1 + off = s + off + 1 := by omega
    rw [hd]
    unfold idx
    by_cases hlt : s + off < l.length
    · rw [List.getElem?_eq_getElem hlt, List.drop_eq_getElem_cons hlt]
      simp only [R.bind_ok, R.pure_eq, List.length_cons, List.take_succ_cons, List.map_cons]
      by_cases hk : (l.drop (s + off + 1)).length < k
      · rw [if_pos hk, if_pos (by omega)]; rfl
      · rw [if_neg hk, if_neg (by omega)]; rfl
    · have hshort : (l.drop (s + off)).length < k + 1 := by
        rw [List.length_drop]
        omega
      rw [List.getElem?_eq_none (by omega), if_pos hshort]
      rfl

/-- `for i in <indices>: for b in blocks: if guard(i, len(b)): data.append(b[i])` -/
def ilLoop (idxs : List Nat) (guard : Nat → Nat → Bool) (blocks : List (List Nat)) : List Nat :=
  idxs.flatMap fun i => blocks.flatMap fun b => if guard i b.length then [b.getD i 0] else []

theorem interleave_eq (blocks : List (List Nat)) :
    interleave blocks = ilLoop (List.range ((blocks.map List.length).foldl max 0)) (fun i len => decide (i < len)) blocks := by
  unfold interleave ilLoop
  simp only [filterMap_getElem? 0, List.foldl_map]

/-- `maxDcCount` / `maxEcCount` as the main loop accumulates them from the block specifications -/
def cbMaxDc (blocks : List (Nat × Nat)) : Nat :=
  blocks.foldl (fun m b => cb_max_dc m (cb_dc_count b.1 b.2)) cb_max_dc0
def cbMaxEc (blocks : List (Nat × Nat)) : Int :=
  blocks.foldl (fun m b => cb_max_ec m (cb_ec_count b.1 b.2 (cb_dc_count b.1 b.2))) cb_max_ec0

theorem cbMaxDc_eq (blocks : List (Nat × Nat)) : cbMaxDc blocks = (blocks.map fun b => b.2).foldl max 0 := by
  unfold cbMaxDc
  rw [List.foldl_map]
  rfl

/-- `maxEcCount` (a signed int in the source) is the largest `total_count - data_count` -/
theorem cbMaxEc_toNat (blocks : List (Nat × Nat)) : (cbMaxEc blocks).toNat = (blocks.map fun b => b.1 - b.2).foldl max 0 := by
  have e1 : cbMaxEc blocks = (blocks.map fun b => ((b.1 : Int) - (b.2 : Int))).foldl max 0 := by
    unfold cbMaxEc
    rw [List.foldl_map]
    rfl
  rw [e1, foldl_max_toNat _ 0 (Int.le_refl 0), List.map_map]
  congr 1
  apply List.map_congr_left
  intro b _
  simp only [Function.comp]
  omega

end QR.SourceTieA

/-! ### the `…Src` assemblies (for the capstones `C02_source_capstone_*`, Props/C02.lean)

An `…Src` definition (here and in SourceTieC04, SourceTieC05Patterns, SourceTieC06Write, SourceTieC07, SourceTieC08, SourceTieMake,
CapstoneC05, CapstoneCompile) only gives a NAME to the right-hand side of a bridge theorem (`Cxx_source_*_src`): it is the Python
function as assembled from the fragments translated into `QR.Gen.Code` (regenerated from the current Python AST on every run) by
the hand-written loop skeletons of `QR/Proofs/SourceTie*.lean`, with every callee that is not translated in place turned into an
explicit PARAMETER, which the capstones instantiate with the Model function the bridge names (or with another `…Src` function).
The only proof here: the loop with the per-block computation as a parameter is the bridge's loop (`cbLoopP_ecOfBlock`). -/
namespace QR.CapstoneE2
open QR.Model QR.Gen.Code QR.SourceTieA

/-- `base.rs_blocks(version, error_correction)` assembled from the translated dictionary lookup, row index and row loop -/
def rsBlocksSrc (version level : Nat) : R (List (Nat × Nat)) :=
  match Gen.RS_BLOCK_OFFSET.lookup level with
  | none => .error .other
  | some offset => idx Gen.RS_BLOCK_TABLE (rs_blocks_row_index version offset).toNat >>= rsLoop

/-- the `current_ec` computation of `util.create_bytes` assembled from the translated shift, offset, range, index, guard and
    else-value; parameters: `rsPolyFor` (the LUT lookup / fallback loop for the generator), `polyMk` (`Polynomial.__init__`),
    `polyMod` (`Polynomial.__mod__`, fuel = recursion depth) -/
def ecOfBlockSrc (rsPolyFor : Nat → R (List Nat)) (polyMk : List Nat → Nat → R (List Nat))
    (polyMod : Nat → List Nat → List Nat → R (List Nat)) (dc : List Nat) (ecCount : Nat) : R (List Nat) :=
  rsPolyFor ecCount >>= fun rsPoly =>
  polyMk dc (cb_raw_shift rsPoly.length).toNat >>= fun rawPoly =>
  polyMod (rawPoly.length + 1) rawPoly rsPoly >>= fun modPoly =>
  pure ((rangeI (cb_ec_range ecCount)).map fun i =>
    if cb_ec_guard (cb_mod_index i (cb_mod_offset modPoly.length ecCount))
    then modPoly.getD (cb_mod_index i (cb_mod_offset modPoly.length ecCount)).toNat 0
    else cb_ec_else)

/-- the main loop of `util.create_bytes` (`QR.SourceTieA.cbLoop`) with the per-block EC computation as a parameter -/
def cbLoopP (ec : List Nat → Nat → R (List Nat)) (buf : List Nat) : Nat → List (Nat × Nat) → R (List (List Nat × List Nat))
  | _, [] => .ok []
  | offset, (total, data) :: rest =>
    dcRead buf offset (cb_dc_count total data) >>= fun dc =>
    ec dc (cb_ec_count total data (cb_dc_count total data)).toNat >>= fun e =>
    cbLoopP ec buf (cb_offset_step offset (cb_dc_count total data)) rest >>= fun tl =>
    pure ((dc, e) :: tl)

/-- `util.create_bytes(buffer, rs_blocks)` assembled from the translated main loop and the two translated interleaving loops;
    `ec` = the per-block EC computation (parameter) -/
def createBytesSrc (ec : List Nat → Nat → R (List Nat)) (buf : List Nat) (blocks : List (Nat × Nat)) : R (List Nat) :=
  cbLoopP ec buf cb_offset0 blocks >>= fun bs =>
  pure (ilLoop (rangeN (cb_il_dc_range (cbMaxDc blocks))) cb_il_dc_guard (bs.map (·.1)) ++
        ilLoop (rangeI (cb_il_ec_range (cbMaxEc blocks))) cb_il_ec_guard (bs.map (·.2)))

theorem cbLoopP_ecOfBlock (buf : List Nat) : ∀ (blocks : List (Nat × Nat)) (offset : Nat),
    cbLoopP ecOfBlock buf offset blocks = cbLoop buf offset blocks
  | [], _ => rfl
  | (total, data) :: rest, offset => by
    unfold cbLoopP cbLoop
    simp only [cbLoopP_ecOfBlock buf rest]

end QR.CapstoneE2
