import QR.Gen.Code
import QR.Proofs.CachedCompile
/-
Translation validation for the QRCode object (T2 plugin `tools/t2_fragments/frag_d2.py`; C11, C18): the validators `_check_box_size`,
`_check_border`, `_check_mask_pattern` (on integer arguments), the property setters `version`, `border`, `mask_pattern`,
`QRCode.clear`, `add_data` and `QRCode.__init__`, as translated statement by statement from the current Python AST into
`QR.Gen.Code.ob_*`, against the Model's `checkBoxSize`, `checkBorder`, `checkMaskPattern`, `step` (cases `.setVersion`,
`.setBorder`, `.setMask`, `.clear`, `.addData`, `.addSeg`) and `construct`.  What only C11 / C18 state about these methods
(other argument types, the getters, the tail of `__init__`) is proved in QR/Props/C11.lean, C18.lean.

The translated code works on a record `ob_QR D C F` of the object's attributes; `toOb` is the image of a Model state.
Exceptions are compared by class name (`liftR`).
-/
namespace QR.SourceTieD2
open QR.Model QR.Gen.Code

/-- the Model's result with the exception replaced by its class name -/
def liftR {α : Type} : R α → Except String α
  | .ok a => .ok a
  | .error e => .error e.name

theorem liftR_eq_valueError {α : Type} (r : R α) : liftR r = .error "ValueError" ↔ r = .error .valueError := by
  cases r with
  | ok a => simp [liftR]
  | error e => cases e <;> simp [liftR, Err.name]

/-- an optional integer argument as a Python value -/
def optVal : Option Int → ob_Val
  | none => .none
  | some i => .int i

/-- the attributes of the Python object that a Model state stands for (`fac` = its `image_factory`, which the Model does not
    carry): `version = 0` is `_version = None`, the matrix as a list of lists -/
def toOb {F : Type} (fac : Option F) (s : QRState) : ob_QR Seg (List Nat) F :=
  { _version := if s.version = 0 then .none else .int s.version
    error_correction := s.level
    box_size := s.boxSize
    _border := s.border
    _mask_pattern := match s.mask with
      | none => .none
      | some m => .int m
    image_factory := fac
    modules := s.modules.toLists
    modules_count := s.modulesCount
    data_cache := s.dataCache
    data_list := s.dataList }

/-- ... and back (left inverse of `toOb`) -/
def ofOb {F : Type} (o : ob_QR Seg (List Nat) F) : QRState :=
  { version := match o._version with
      | .int i => i.toNat
      | _ => 0
    level := o.error_correction.toNat
    mask := match o._mask_pattern with
      | .int i => some i.toNat
      | _ => none
    border := o._border.toNat
    boxSize := o.box_size
    dataList := o.data_list
    dataCache := o.data_cache
    modules := (o.modules.map List.toArray).toArray
    modulesCount := o.modules_count }

theorem ofOb_toOb {F : Type} (fac : Option F) (s : QRState) : ofOb (toOb fac s) = s := by
  obtain ⟨v, l, m, b, bs, dl, dc, mo, mc⟩ := s
  simp only [ofOb, toOb, Mat.toLists]
  congr
  · by_cases h : v = 0 <;> simp [h]
  · cases m <;> simp
  · simp [List.map_map, Function.comp_def]

/-- `util.check_version` as the setter calls it (on the result of `int(value)`) -/
def checkVersionOb : ob_Val → Except String Unit
  | .int i => liftR (checkVersion i)
  | _ => .error "TypeError"

/-- `self.best_fit()` as the getter calls it (no argument: `start=None`), through the Model's `bestFitS 4 0` -/
def bestFitOb {F : Type} (fac : Option F) :
    Global × ob_QR Seg (List Nat) F → (Global × ob_QR Seg (List Nat) F) × Except String Unit :=
  fun p => ((p.1, toOb fac (bestFitS 4 0 (ofOb p.2)).1), liftR ((bestFitS 4 0 (ofOb p.2)).2.map fun _ => ()))

/-! ### validators -/

/-- `_check_box_size(size)` on an integer -/
theorem checkBoxSize_src (x : Int) : ob_check_box_size (.int x) = liftR (checkBoxSize x) := by
  by_cases h : x ≤ 0 <;> simp [ob_check_box_size, ob_py_int, Except.bind, checkBoxSize, liftR, h, Err.name]

/-- `_check_border(size)` on an integer -/
theorem checkBorder_src (x : Int) : ob_check_border (.int x) = liftR (checkBorder x) := by
  by_cases h : x < 0 <;> simp [ob_check_border, ob_py_int, Except.bind, checkBorder, liftR, h, Err.name]

/-- `_check_mask_pattern(mask_pattern)` on `None` or an integer: the complete body (early return, isinstance test, range) -/
theorem checkMaskPattern_src (x : Option Int) : ob_check_mask_pattern (optVal x) = liftR (checkMaskPattern x) := by
  cases x with
  | none => rfl
  | some m =>
    by_cases h1 : m < 0 <;> by_cases h2 : m > 7 <;>
      simp [ob_check_mask_pattern, optVal, ob_py_is_none, ob_py_isinstance_int, ob_py_num, checkMaskPattern, liftR, h1, h2, Err.name]

/-! ### setters, `clear`, `add_data` -/

/-- what the Model's `step` says about an operation that returns nothing, against a translated setter run on the image of
    the state: same new state (image), process-wide state untouched; or the same exception class and nothing changed -/
def Agrees {F : Type} (fac : Option F) (g : Global) (s : QRState) (r : Except String (ob_QR Seg (List Nat) F))
    (res : St × Out) : Prop :=
  match res.2 with
  | .unit => r = .ok (toOb fac res.1.2) ∧ res.1.1 = g
  | .err e => r = .error e.name ∧ res.1 = (g, s)
  | _ => False

/-- the setters on ANY object: the check, then the one attribute replaced -/
theorem set_version_any {D C F : Type} (o : ob_QR D C F) (x : Option Int) :
    ob_set_version checkVersionOb o (optVal x) =
      liftR ((x.elim (.ok ()) checkVersion).map fun _ => { o with _version := optVal x }) := by
  cases x with
  | none => rfl
  | some v =>
    simp only [optVal, ob_set_version, ob_py_is_none, ob_py_int, Except.bind, checkVersionOb, Option.elim]
    cases checkVersion v <;> rfl

theorem set_border_any {D C F : Type} (o : ob_QR D C F) (x : Int) :
    ob_set_border o (.int x) = liftR ((checkBorder x).map fun _ => { o with _border := x }) := by
  rw [ob_set_border, checkBorder_src]
  cases checkBorder x <;> rfl

theorem set_mask_any {D C F : Type} (o : ob_QR D C F) (x : Option Int) :
    ob_set_mask_pattern o (optVal x) = liftR ((checkMaskPattern x).map fun _ => { o with _mask_pattern := optVal x }) := by
  rw [ob_set_mask_pattern, checkMaskPattern_src]
  cases checkMaskPattern x <;> rfl

/-- a checked value written into the object of a state -/
theorem toOb_set_version {F : Type} (fac : Option F) (s : QRState) {v : Int} (h : 1 ≤ v ∧ v ≤ 40) :
    { toOb fac s with _version := .int v } = toOb fac { s with version := v.toNat } := by
  have h0 : v.toNat ≠ 0 := by omega
  have h1 : ((v.toNat : Nat) : Int) = v := by omega
  simp only [toOb, h0, if_false, h1]

theorem toOb_set_border {F : Type} (fac : Option F) (s : QRState) {x : Int} (h : 0 ≤ x) :
    { toOb fac s with _border := x } = toOb fac { s with border := x.toNat } := by
  have h1 : ((x.toNat : Nat) : Int) = x := by omega
  simp only [toOb, h1]

theorem toOb_set_mask {F : Type} (fac : Option F) (s : QRState) {x : Option Int} (h : ∀ m, x = some m → 0 ≤ m ∧ m ≤ 7) :
    { toOb fac s with _mask_pattern := optVal x } = toOb fac { s with mask := x.map Int.toNat } := by
  cases x with
  | none => rfl
  | some m =>
    have := h m rfl
    have h1 : ((m.toNat : Nat) : Int) = m := by omega
    simp only [toOb, optVal, Option.map_some, h1]

/-- a checked write agrees with the Model's setter -/
theorem Agrees.of_check {F : Type} {fac : Option F} {g : Global} {s s' : QRState} {c : R Unit}
    {o' : ob_QR Seg (List Nat) F} (h : ∀ u, c = .ok u → o' = toOb fac s') :
    Agrees fac g s (liftR (c.map fun _ => o'))
      (match (generalizing := false) c with
       | .ok _ => ((g, s'), Out.unit)
       | .error e => ((g, s), .err e)) := by
  cases c with
  | ok u => exact ⟨congrArg Except.ok (h u rfl), rfl⟩
  | error e => exact ⟨rfl, rfl⟩

/-- `self.version = value`: `None` is stored as it is; otherwise `int(value)`, `util.check_version`, store -/
theorem setVersion_src {F : Type} (fac : Option F) (g : Global) (s : QRState) (x : Option Int) :
    Agrees fac g s (ob_set_version checkVersionOb (toOb fac s) (optVal x)) (step (g, s) (.setVersion x)) := by
  cases x with
  | none => exact ⟨rfl, rfl⟩
  | some v =>
    rw [set_version_any]
    exact Agrees.of_check fun _ hu => toOb_set_version fac s (checkVersion_ok.1 hu)

/-- `self.border = value`: `_check_border(value)`, then `int(value)` is stored -/
theorem setBorder_src {F : Type} (fac : Option F) (g : Global) (s : QRState) (x : Int) :
    Agrees fac g s (ob_set_border (toOb fac s) (.int x)) (step (g, s) (.setBorder x)) := by
  rw [set_border_any]
  exact Agrees.of_check fun _ hu => toOb_set_border fac s (checkBorder_ok.1 hu)

/-- `self.mask_pattern = pattern`: `_check_mask_pattern(pattern)`, then the argument itself is stored -/
theorem setMask_src {F : Type} (fac : Option F) (g : Global) (s : QRState) (x : Option Int) :
    Agrees fac g s (ob_set_mask_pattern (toOb fac s) (optVal x)) (step (g, s) (.setMask x)) := by
  rw [set_mask_any]
  exact Agrees.of_check fun _ hu => toOb_set_mask fac s (checkMaskPattern_ok.1 hu)

/-- `clear()` as an operation -/
theorem stepClear_src {F : Type} (fac : Option F) (g : Global) (s : QRState) :
    Agrees fac g s (.ok (ob_clear (toOb fac s))) (step (g, s) .clear) :=
  ⟨rfl, rfl⟩

/-- `add_data(data, optimize)` on a byte string = the Model's `.addData` (spelled out at `C11_source_addData_src`) -/
theorem addData_src {F : Type} (fac : Option F) (g : Global) (s : QRState) (d : Bytes) (n : Nat) :
    Agrees fac g s
      (.ok (ob_add_data (fun d k => optimalDataChunks d k.toNat) (fun d => ({ mode := optimalMode d, data := d } : Seg))
        (toOb fac s) (.inr d) (n : Int)))
      (step (g, s) (.addData d n)) := by
  by_cases h : n = 0
  · subst h; simp [Agrees, step, ob_add_data, addData, toOb]
  · simp [Agrees, step, ob_add_data, addData, toOb, h]

/-- `add_data(data)` on a `QRData` object = the Model's `.addSeg`, whatever `optimize` -/
theorem addSeg_src {F X : Type} (fac : Option F) (g : Global) (s : QRState) (x : Seg) (k : Int)
    (chunks : X → Int → List Seg) (mk : X → Seg) :
    Agrees fac g s (.ok (ob_add_data chunks mk (toOb fac s) (.inl x) k)) (step (g, s) (.addSeg x)) := by
  simp [Agrees, step, ob_add_data, toOb]
  rfl

/-! ### the constructor -/

/-- `QRCode.__init__` on integer (or `None`) arguments = the Model's `construct`, whatever the attributes were before
    (`self0`); spelled out at `C18_source_construct_src`.  `fac` is the `image_factory` argument (absent from the Model); it
    must be `None` or a subclass of `BaseImage`. -/
theorem construct_src {F : Type} (issub : F → Bool) (fac : Option F) (hf : ∀ f, fac = some f → issub f = true)
    (self0 : ob_QR Seg (List Nat) F) (version : Option Int) (level : Nat) (box border : Int) (mask : Option Int) :
    ob_init checkVersionOb issub self0 (optVal version) (.int level) (.int box) (.int border) fac (optVal mask) =
      liftR ((construct version level box border mask).map (toOb fac)) := by
  rw [ob_init, construct_eq, checkBoxSize_src, checkBorder_src, set_version_any]
  cases hb : checkBoxSize box with
  | error e => rfl
  | ok u1 =>
    cases hbo : checkBorder border with
    | error e => rfl
    | ok u2 =>
      cases hv : version.elim (.ok ()) checkVersion with
      | error e => rfl
      | ok u3 =>
        simp only [liftR, Except.map, Except.bind, ob_py_int, set_border_any, hbo, set_mask_any, R.bind_ok]
        cases hm : checkMaskPattern mask with
        | error e => rfl
        | ok u4 =>
          -- the checked arguments, written one after the other into the object of the state with `version = None`,
          -- `border = 0`, `mask_pattern = None`, are the object of the state `construct` returns
          let s0 : QRState :=
            { version := 0, level := level, mask := none, border := 0, boxSize := box, dataList := [], dataCache := none,
              modules := #[#[]], modulesCount := 0 }
          have e1 : { toOb fac s0 with _version := optVal version } = toOb fac { s0 with version := (version.getD 0).toNat } := by
            cases version with
            | none => rfl
            | some v => exact toOb_set_version fac s0 (checkVersion_ok.1 hv)
          have e2 := toOb_set_border fac { s0 with version := (version.getD 0).toNat } (checkBorder_ok.1 hbo)
          have e3 := toOb_set_mask fac { s0 with version := (version.getD 0).toNat, border := border.toNat }
            (checkMaskPattern_ok.1 hm)
          simp only [R.bind_ok, R.pure_eq]
          rw [show toOb fac _ = toOb fac
                { s0 with version := (version.getD 0).toNat, border := border.toNat, mask := mask.map Int.toNat } from rfl,
            ← e3, ← e2, ← e1]
          cases fac with
          | none => rfl
          | some f =>
            simp only [hf f rfl, if_true]
            rfl

end QR.SourceTieD2
