import QR.Proofs.SegShape
/-
C10 - segmentation (`QRCode.add_data` with `optimize = n` on a byte string `d`) is lossless, valid, most compact
for threshold 0, honours the minimum chunk length and carries every long digit / alphanumeric run in its mode, for ALL
byte lists and ALL thresholds.  This file: the clause `runsCarried` (marks and modes are labellings of the segment list;
in the un-anchored case the numeric / alphanumeric segments are exactly the long runs), then the verdict.
-/
namespace QR.Seg
open QR.Model

/-- a value per segment, repeated over the positions of the segment -/
def label {β} (f : Seg → β) (segs : List Seg) : List β := segs.flatMap fun s => List.replicate s.data.length (f s)

theorem posModes_conv (segs : List Seg) : Spec.posModes (segs.map conv) = label (fun s => modeOf s.mode) segs := by
  simp only [Spec.posModes, label, List.flatMap_map]
  rfl

/-- the two `runsCarried` conjuncts -/
def Carried (n : Nat) (d : List Nat) (pm : List Spec.Mode) : Prop :=
  ((Spec.longDigit n d).zip pm).all (fun (ld, m) => !ld || m == .numeric) = true ∧
  ((Spec.longAlnum n d).zip pm).all (fun (la, m) => !la || m == .alnum) = true

theorem carried_of {X : Spec.Mode} {L : List Bool} {pm : List Spec.Mode} (h : true ∈ L → ∀ m ∈ pm, m = X) :
    (L.zip pm).all (fun (l, m) => !l || m == X) = true := by
  rw [List.all_eq_true]
  rintro ⟨l, m⟩ hlm
  cases l with
  | false => rfl
  | true => simp [h (List.of_mem_zip hlm).1 m (List.of_mem_zip hlm).2]

theorem carried_label {X : Spec.Mode} {f : Seg → Bool} : ∀ (segs : List Seg), (∀ s ∈ segs, f s = true → modeOf s.mode = X) →
    ((label f segs).zip (label (fun s => modeOf s.mode) segs)).all (fun (l, m) => !l || m == X) = true
  | [], _ => rfl
  | s :: segs, h => by
    simp only [label, List.flatMap_cons]
    rw [List.zip_append (by simp), List.all_append, Bool.and_eq_true]
    refine ⟨carried_of fun hl m hm => ?_, carried_label segs fun t ht => h t (List.mem_cons_of_mem _ ht)⟩
    rw [(List.mem_replicate.mp hm).2]
    exact h s List.mem_cons_self (List.mem_replicate.mp hl).2.symm

theorem longDigit_eq_ML (n : Nat) (d : List Nat) : Spec.longDigit n d = ML n (d.map isDigit) := by
  simp only [Spec.longDigit, isDigitChar_eq]
  exact markLong_eq_ML (by simp)

theorem longAlnum_eq_ML (n : Nat) (d : List Nat) :
    Spec.longAlnum n d = ML n ((d.zip (Spec.longDigit n d)).map fun x => isAlnum x.1 && !x.2) := by
  simp only [Spec.longAlnum, isAlnumChar_eq]
  exact markLong_eq_ML (by simp only [List.length_map, List.length_zip]; omega)

theorem zip_replicate_map {α β γ} (g : α × β → γ) (b : β) : ∀ (l : List α),
    (l.zip (List.replicate l.length b)).map g = l.map (fun c => g (c, b))
  | [] => rfl
  | a :: l => by simp [List.replicate_succ, zip_replicate_map g b l]

/-- data no longer than the threshold: a position is marked only if the whole data is one run of exactly `n` characters,
    and then the anchored pattern matches all of it -/
theorem carried_anchored (n : Nat) (d : List Nat) (hn : 1 ≤ n) (hd : d.length ≤ n) :
    Carried n d (label (fun s => modeOf s.mode) (segsOf (splitAnchored isDigit d) (splitAnchored isAlnum))) := by
  have hne : ∀ {p : Nat → Bool}, true ∈ ML n (d.map p) → d ≠ [] := fun h e => by subst e; simp [ML_nil] at h
  have hall : ∀ {p : Nat → Bool}, true ∈ ML n (d.map p) → ∀ c ∈ d, p c = true := fun h c hc =>
    ML_short_true (by simpa using hd) h _ (List.mem_map_of_mem hc)
  constructor
  · apply carried_of
    rw [longDigit_eq_ML]
    intro h m hm
    rw [splitAnchored_all (hne h) (hall h)] at hm
    simp only [segsOf, label, List.flatMap_cons, List.flatMap_nil, List.append_nil, if_true] at hm
    exact (List.mem_replicate.mp hm).2
  · apply carried_of
    intro h m hm
    by_cases hld : true ∈ Spec.longDigit n d
    · -- the data is one long digit run: no alphanumeric candidate is left
      exfalso
      have hdig := hall (longDigit_eq_ML n d ▸ hld)
      rw [longDigit_eq_ML, List.map_eq_replicate_iff.mpr hdig, ML_replicate_true] at hld
      have hge : decide (n ≤ d.length) = true := (List.mem_replicate.mp hld).2.symm
      rw [longAlnum_eq_ML, longDigit_eq_ML, List.map_eq_replicate_iff.mpr hdig, ML_replicate_true, hge, zip_replicate_map] at h
      have := ML_mem_true h
      simp [List.map_const', List.count_replicate] at this
      omega
    · have hlen : (Spec.longDigit n d).length = d.length := by rw [longDigit_eq_ML, ML_length, List.length_map]
      rw [longAlnum_eq_ML, eq_replicate_false hld, hlen, zip_replicate_map] at h
      have hal : ∀ c ∈ d, isAlnum c = true := fun c hc => by simpa using hall h c hc
      have hnil := hne h
      have hdig' : ¬ ∀ c ∈ d, isDigit c = true := fun hdig => hld (by
        have hnd : n ≤ d.length := by
          have h2 := Nat.le_trans (ML_mem_true h) List.count_le_length
          rwa [List.length_map] at h2
        rw [longDigit_eq_ML, List.map_eq_replicate_iff.mpr hdig, ML_replicate_true]
        exact List.mem_replicate.mpr ⟨by have := List.length_pos_iff.mpr hnil; omega, by simp [hnd]⟩)
      have h10 : 10 ∉ d := fun h => by have := hal 10 h; rw [isAlnum_10] at this; cases this
      rw [splitAnchored_none hdig' h10] at hm
      simp only [segsOf, label, splitAnchored_all hnil hal, List.flatMap_cons, List.flatMap_nil, List.append_nil, if_true,
        Bool.false_eq_true, if_false, List.map_cons, List.map_nil] at hm
      exact (List.mem_replicate.mp hm).2

/-! ### the un-anchored case: the numeric / alphanumeric segments are exactly the marked runs -/

theorem flatMap_replicate_chunks {β} (b : β) : ∀ (cs : List (Bool × List Nat)),
    (cs.flatMap fun y => List.replicate y.2.length b) = List.replicate (cs.flatMap (·.2)).length b
  | [] => rfl
  | x :: cs => by
    simp only [List.flatMap_cons, List.length_append, List.replicate_append_replicate, flatMap_replicate_chunks b cs]

theorem flagsOf_eq_label (cs : List (Bool × List Nat)) {inner : List Nat → List (Bool × List Nat)}
    (hin : ∀ c, (inner c).flatMap (·.2) = c) : flagsOf cs = label (fun s => s.mode == 1) (segsOf cs inner) := by
  simp only [flagsOf, label, segsOf, List.flatMap_assoc]
  apply flatMap_congr
  intro x _
  cases x.1 with
  | true => simp
  | false =>
    simp only [Bool.false_eq_true, if_false, List.flatMap_map]
    rw [flatMap_congr (g := fun y => List.replicate y.2.length false) (by intro y _; cases y.1 <;> rfl),
      flatMap_replicate_chunks, hin]

theorem innerFlags_eq_label (cs : List (Bool × List Nat)) (inner : List Nat → List (Bool × List Nat)) :
    (cs.flatMap fun x => if x.1 then List.replicate x.2.length false else flagsOf (inner x.2)) =
      label (fun s => s.mode == 2) (segsOf cs inner) := by
  simp only [flagsOf, label, segsOf, List.flatMap_assoc]
  apply flatMap_congr
  intro x _
  cases x.1 with
  | true => simp
  | false =>
    simp only [Bool.false_eq_true, if_false, List.flatMap_map]
    exact flatMap_congr (by intro y _; cases y.1 <;> rfl)

theorem longDigit_eq_flagsOf (n : Nat) (d : List Nat) :
    Spec.longDigit n d = flagsOf (splitRuns isDigit n d.length d) := by
  rw [longDigit_eq_ML]
  exact (splitRuns_spec _ d (Nat.le_refl _)).2.2.symm

theorem zip_flags_map {γ} (g : Nat × Bool → γ) : ∀ (cs : List (Bool × List Nat)),
    ((cs.flatMap (·.2)).zip (flagsOf cs)).map g = cs.flatMap (fun x => x.2.map (fun c => g (c, x.1)))
  | [] => rfl
  | x :: cs => by
    have ih := zip_flags_map g cs
    simp only [flagsOf] at ih ⊢
    simp only [List.flatMap_cons]
    rw [List.zip_append (by simp), List.map_append, ih, zip_replicate_map]

/-- the alphanumeric candidate positions, computed from the digit chunk list -/
def marksOf (cs : List (Bool × List Nat)) : List Bool :=
  cs.flatMap fun x => x.2.map fun c => isAlnum c && !x.1

theorem marksOf_cons_true (c : List Nat) (rest : List (Bool × List Nat)) :
    marksOf ((true, c) :: rest) = List.replicate c.length false ++ marksOf rest := by
  simp only [marksOf, List.flatMap_cons, Bool.not_true, Bool.and_false]
  congr 1
  exact List.map_eq_replicate_iff.mpr fun _ _ => rfl

theorem marksOf_cons_false (c : List Nat) (rest : List (Bool × List Nat)) :
    marksOf ((false, c) :: rest) = c.map isAlnum ++ marksOf rest := by
  simp only [marksOf, List.flatMap_cons, Bool.not_false, Bool.and_true]

theorem ML_marksOf {n : Nat} : ∀ (cs : List (Bool × List Nat)), Alt cs →
    ML n (marksOf cs) = cs.flatMap fun x =>
      if x.1 then List.replicate x.2.length false else flagsOf (splitRuns isAlnum n x.2.length x.2)
  | [], _ => rfl
  | (true, c) :: rest, h => by
    rw [marksOf_cons_true, ML_false_append, ML_marksOf rest h.2]
    simp
  | (false, c) :: rest, h => by
    have hB : StartsFalse (marksOf rest) := by
      rcases h.1 rfl with h | ⟨c', r, h, hc'⟩
      · subst h; left; rfl
      · subst h
        right
        cases c' with
        | nil => exact absurd rfl hc'
        | cons a t =>
          rw [marksOf_cons_true]
          refine ⟨List.replicate t.length false ++ marksOf r, ?_⟩
          simp [List.replicate_succ]
    rw [marksOf_cons_false, ML_append n hB, ← (splitRuns_spec _ c (Nat.le_refl _)).2.2, ML_marksOf rest h.2]
    simp

/-- un-anchored case: the numeric segments are exactly the digit runs of length ≥ `n` -/
theorem longDigit_eq_label (n : Nat) (d : List Nat) : Spec.longDigit n d =
    label (fun s => s.mode == 1) (segsOf (splitRuns isDigit n d.length d) fun c => splitRuns isAlnum n c.length c) := by
  rw [longDigit_eq_flagsOf, flagsOf_eq_label _ fun c => (splitRuns_spec _ c (Nat.le_refl _)).1.1]

/-- un-anchored case: the alphanumeric segments are exactly the alphanumeric runs of length ≥ `n` outside those digit runs -/
theorem longAlnum_eq_label (n : Nat) (d : List Nat) : Spec.longAlnum n d =
    label (fun s => s.mode == 2) (segsOf (splitRuns isDigit n d.length d) fun c => splitRuns isAlnum n c.length c) := by
  rw [longAlnum_eq_ML, longDigit_eq_flagsOf]
  obtain ⟨⟨hcat, _⟩, halt, _⟩ := splitRuns_spec (p := isDigit) (n := n) d.length d (Nat.le_refl _)
  have := zip_flags_map (fun x : Nat × Bool => isAlnum x.1 && !x.2) (splitRuns isDigit n d.length d)
  rw [hcat] at this
  rw [this]
  exact (ML_marksOf _ halt).trans (innerFlags_eq_label _ fun c => splitRuns isAlnum n c.length c)

theorem conv_runsCarried (d : List Nat) (n : Nat) :
    (Spec.segmentation n d ((addData d n).map conv)).runsCarried = true := by
  simp only [Spec.segmentation]
  by_cases hn : n = 0
  · simp [hn]
  · have hc : Carried n d (Spec.posModes ((addData d n).map conv)) := by
      simp only [addData, ne_eq, hn, not_false_eq_true, if_true]
      rw [optimalDataChunks_eq, posModes_conv]
      by_cases hd : d.length ≤ n
      · simp only [splitBy_pos hd]
        exact carried_anchored n d (by omega) hd
      · simp only [splitBy_neg hd]
        constructor
        · rw [longDigit_eq_label]
          exact carried_label _ fun s _ hs => by rw [modeOf, if_pos (beq_iff_eq.mp hs)]
        · rw [longAlnum_eq_label]
          exact carried_label _ fun s _ hs => by rw [beq_iff_eq.mp hs]; rfl
    obtain ⟨h1, h2⟩ := hc
    rw [h1, h2]; simp

end QR.Seg

namespace QR
open QR.Seg

theorem Spec.SegVerdict.eq_all_true : ∀ v : Spec.SegVerdict, v.lossless = true → v.valid = true →
    v.thresholdZero = true → v.runsCarried = true → v.minLength = true → v = ⟨true, true, true, true, true⟩
  | ⟨_, _, _, _, _⟩, rfl, rfl, rfl, rfl, rfl => rfl

theorem segmentation_addData (d : List Nat) (n : Nat) {ps : List Spec.PSeg} (h : toPSegs (Model.addData d n) = some ps) :
    Spec.segmentation n d ps = ⟨true, true, true, true, true⟩ := by
  rw [addData_toPSegs_eq] at h
  obtain rfl := Option.some.inj h
  exact Spec.SegVerdict.eq_all_true _ (conv_lossless d n) (conv_valid d n) (conv_thresholdZero d n) (conv_runsCarried d n)
    (conv_minLength d n)

/-- C10: every clause of the segmentation property holds -/
theorem C10_segmentation (d : List Nat) (n : Nat) :
    ∀ ps, toPSegs (Model.addData d n) = some ps → (Spec.segmentation n d ps).ok = true := by
  intro ps h
  rw [segmentation_addData d n h]; rfl

end QR
