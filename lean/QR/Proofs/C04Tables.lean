import QR.Model.Matrix
import QR.Spec.Geometry
import QR.Proofs.Finite
/-
C04 - format and version information are the correct BCH codewords (finite part: the two codes, the level
indicators).  Spec side: "top bits = data, divisible by the generator" computed by fixed-length long division;
Model side: the `while BCH_digit(d) - BCH_digit(G) >= 0` loops over the constants translated from the source.
-/
namespace QR.Props

/-- `util.BCH_type_info(d)` is the ISO format word for all 32 (level, mask) inputs -/
theorem C04_bch15 : ∀ d, d < 32 → Model.bchTypeInfo d = Spec.formatWord d := by
  have h : (List.range 32).all (fun d => Model.bchTypeInfo d == Spec.formatWord d) = true := by decide +kernel
  intro d hd; simpa using forall_lt_of_all h d hd

/-- `util.BCH_type_number(v)` is the ISO version word for every version (in particular 7..40) -/
theorem C04_bch18 : ∀ v, v < 64 → Model.bchTypeNumber v = Spec.versionWord v := by
  have h : (List.range 64).all (fun v => Model.bchTypeNumber v == Spec.versionWord v) = true := by decide +kernel
  intro v hv; simpa using forall_lt_of_all h v hv

/-- the Spec's format words are BCH(15,5) codewords (divisible by the generator once the mask is removed),
    carry their data in the top five bits (so they are pairwise distinct) and fit in 15 bits: the spec is self-consistent -/
theorem C04_spec_format_sound :
    ∀ d, d < 32 → Spec.gf2rem 0x537 10 5 (Spec.formatWord d ^^^ 0x5412) = 0
      ∧ (Spec.formatWord d ^^^ 0x5412) >>> 10 = d ∧ Spec.formatWord d < 2 ^ 15 := by
  have h : (List.range 32).all (fun d => Spec.gf2rem 0x537 10 5 (Spec.formatWord d ^^^ 0x5412) == 0
      && (Spec.formatWord d ^^^ 0x5412) >>> 10 == d && decide (Spec.formatWord d < 2 ^ 15)) = true := by decide +kernel
  intro d hd; simpa [Bool.and_eq_true, and_assoc] using forall_lt_of_all h d hd

theorem C04_spec_version_sound :
    ∀ v, v < 64 → Spec.gf2rem 0x1F25 12 6 (Spec.versionWord v) = 0 ∧ Spec.versionWord v >>> 12 = v := by
  have h : (List.range 64).all (fun v => Spec.gf2rem 0x1F25 12 6 (Spec.versionWord v) == 0
      && Spec.versionWord v >>> 12 == v) = true := by decide +kernel
  intro v hv; simpa [Bool.and_eq_true] using forall_lt_of_all h v hv

/-- the integers the library uses for the levels are the ISO two-bit indicators (L=01 M=00 Q=11 H=10) -/
theorem C04_level :
    Gen.ERROR_CORRECT_L = Spec.Level.L.indicator ∧ Gen.ERROR_CORRECT_M = Spec.Level.M.indicator ∧
    Gen.ERROR_CORRECT_Q = Spec.Level.Q.indicator ∧ Gen.ERROR_CORRECT_H = Spec.Level.H.indicator := ⟨rfl, rfl, rfl, rfl⟩

/-- published examples (tests of the Spec, not proofs): format word for M / mask 101, version words 7 and 40 -/
example : Spec.formatWord 0b00101 = 0b100000011001110 := by decide
example : Spec.versionWord 7 = 0x07C94 ∧ Spec.versionWord 40 = 0x28C69 := by decide

end QR.Props
