import QR.Gen.Code
import QR.Model.Styled
import QR.Model.Render
import QR.Proofs.Styled
/-
Translation validation for C14: qrcode/image/styledpil.py (`StyledPilImage.__init__` paint colour, `new_image` mode,
`draw_embeded_image` geometry), as translated from the AST into `QR.Gen.Code.spil_*`, against `Model.paintColour`,
`Model.logoGeometry`, `Model.truncInt`, `Model.pixelSize`.  (`PilImage.new_image` of pil.py: SourceTieC12.)
-/
namespace QR.SourceTieT
open QR.Model QR.Gen.Code

/-- `Model.paintColour` is the paint colour `StyledPilImage.__init__` computes, for any `has_transparency` flag that is
    `len(back_color) == 4` -/
theorem paintColour_flag_src (back : Colour) (ht : Bool) (h : ht = decide (back.length = 4)) :
    paintColour back = spil_paint_color back ht := by
  subst h
  unfold paintColour spil_paint_color spil_paint_color_override spil_paint_color_default
  by_cases h4 : back.length = 4 <;> simp [h4]

/-- the statements after the paint colour: only the base-class constructor; the mask is read from the keyword arguments -/
theorem paintColour_context_src :
    spil_init_after_paint = ["super().__init__(*args, **kwargs)"] ∧
    spil_color_mask_source = "kwargs.get('color_mask', SolidFillColorMask())" :=
  ⟨rfl, rfl⟩

/-- the canvas is `pixel_size` square and filled with the mask's background colour -/
theorem styledNewImageSize_src (width border boxSize : Nat) :
    spil_new_image_size (pixelSize width border boxSize) = (pixelSize width border boxSize, pixelSize width border boxSize) ∧
    spil_new_image_colour = "self.color_mask.back_color" ∧
    spil_new_image_call = "Image.new(mode, (self.pixel_size, self.pixel_size), back_color)" :=
  ⟨rfl, rfl, rfl⟩

/-- Python's `int()` on reals, as generated, is the Model's -/
theorem truncIntSpil_src (q : Rat) : truncInt q = spil_pyInt q := rfl

/-- `logo_width_ish = int(total_width * ratio)` -/
theorem logoWidthIsh_src (total height : Int) (ratio : Rat) :
    spil_logo_width_ish total height ratio = truncInt ((total : Rat) * ratio) := rfl

/-- for a ratio in the documented range `[0, 1]`, `0 ≤ logo_width_ish ≤ total_width` -/
theorem logoWidthIsh_range (total : Nat) (height : Int) (ratio : Rat) (h0 : 0 ≤ ratio) (h1 : ratio ≤ 1) :
    0 ≤ spil_logo_width_ish total height ratio ∧ spil_logo_width_ish total height ratio ≤ total := by
  have ht : (0 : Rat) ≤ ((total : Int) : Rat) := Rat.intCast_nonneg.mpr (by omega)
  have hhi := Rat.mul_le_mul_of_nonneg_left h1 ht
  rw [Rat.mul_one] at hhi
  rw [logoWidthIsh_src]
  exact Proofs.Styled.truncInt_between 0 total _ (by rw [Rat.intCast_zero]; exact Rat.mul_nonneg ht h0) hhi

/-- with the default ratio (the float literal `0.25`, exactly 1/4) `logo_width_ish = total_width // 4` -/
theorem logoWidthIsh_default_src (total : Nat) (height : Int) :
    spil_ratio_default = (1 : Rat) / 4 ∧ spil_ratio_key = "embeded_image_ratio" ∧
    spil_logo_width_ish total height spil_ratio_default = ((total / 4 : Nat) : Int) := by
  refine ⟨rfl, rfl, ?_⟩
  have hd : spil_ratio_default = (1 : Rat) / 4 := rfl
  have hq : (0 : Rat) ≤ ((total : Int) : Rat) * spil_ratio_default :=
    Rat.mul_nonneg (Rat.intCast_nonneg.mpr (by omega)) (by rw [hd]; grind)
  rw [logoWidthIsh_src, Proofs.Styled.truncInt_of_nonneg hq]
  have e : ((total : Int) : Rat) * spil_ratio_default = ((total : Int) : Rat) / (((4 : Nat) : Int) : Rat) := by
    rw [hd]; push_cast; grind
  rw [e, Proofs.Styled.floor_intCast_div total 4 (by decide)]
  rfl

/-- the offset in the source's own (real-number) form: `int((int(total / 2) - int(w / 2)) / box) * box`, for ALL ints
    `total`, `w` (also negative differences) and every `box` (at `box = 0`, which `_check_box_size` excludes, Python raises
    ZeroDivisionError; here both sides are 0, by Lean's `x / 0 = 0`) -/
theorem logoOffset_real_src (total height w : Int) (box : Nat) :
    (spil_logo_box_of total height box w).1.1 =
      truncInt (((truncInt ((total : Rat) / (((2 : Nat) : Int) : Rat)) - truncInt ((w : Rat) / (((2 : Nat) : Int) : Rat)) : Int) : Rat)
        / ((box : Int) : Rat)) * box := by
  rw [Proofs.Styled.truncInt_intCast_div, Proofs.Styled.truncInt_intCast_div, Proofs.Styled.truncInt_intCast_div]
  rfl

end QR.SourceTieT
