import QR.Model.Data
import QR.Spec.GF
import QR.Spec.Tables
import QR.Proofs.Finite
import QR.Proofs.Except
/-
C02 - Reed-Solomon: the translated tables are the ISO generator polynomials and Table 9 (the field tables are in
`QR.Proofs.GF256`).  What is finite is evaluated, Table 9 row by row; what holds by argument is proved: here the sums over
the block list of `Spec.isoBlocks`, in `QR.Proofs.RSDiv` the roots of the generators.
-/
namespace QR

theorem Spec.Level.indicator_lt (l : Spec.Level) : l.indicator < 4 := by cases l <;> decide

theorem Spec.Level.ofIndicator_indicator (l : Spec.Level) : Spec.Level.ofIndicator l.indicator = some l := by
  cases l <;> rfl

namespace Props

def allLevels : List Spec.Level := [.L, .M, .Q, .H]

/-- every EC-codewords-per-block value that occurs in ISO Table 9 -/
def eccLengths : List Nat := [7, 10, 13, 15, 16, 17, 18, 20, 22, 24, 26, 28, 30]

theorem mem_allLevels (l : Spec.Level) : l ∈ allLevels := by
  cases l <;> simp [allLevels]

/-- `n − r` blocks with `s − e` and `r` blocks with `s + 1 − e` data codewords hold all of `n·s + r` but `e` per block -/
theorem blocks_sum {n s r e : Nat} (hr : r ≤ n) (he : e ≤ s) :
    (n - r) * (s - e) + r * (s + 1 - e) = n * s + r - e * n := by
  have h1 : (n - r) * (s - e) + r * (s - e) = n * (s - e) := by
    rw [← Nat.add_mul, Nat.sub_add_cancel hr]
  have h2 : r * (s + 1 - e) = r * (s - e) + r := by
    rw [show s + 1 - e = s - e + 1 by omega, Nat.mul_succ]
  have h3 : n * (s - e) = n * s - e * n := by
    rw [Nat.mul_sub, Nat.mul_comm e n]
  have h4 : e * n ≤ n * s := by
    rw [Nat.mul_comm e n]
    exact Nat.mul_le_mul_left n he
  omega

/-- `Spec.isoBlocks` spreads the codewords as evenly as division with remainder allows, so the sums need no table, only
    that the EC length fits into the short block (`he`) -/
theorem isoBlocks_sums {v : Nat} {l : Spec.Level} (hnb : 1 ≤ Spec.blockCount v l)
    (he : Spec.eccLen v l ≤ Spec.totalCodewords v / Spec.blockCount v l) :
    ((Spec.isoBlocks v l).map (·.2)).sum = Spec.dataCodewords v l ∧
    ((Spec.isoBlocks v l).map fun b => b.1 - b.2).sum = Spec.eccLen v l * Spec.blockCount v l := by
  have hr : Spec.totalCodewords v % Spec.blockCount v l ≤ Spec.blockCount v l := Nat.le_of_lt (Nat.mod_lt _ hnb)
  simp only [Spec.isoBlocks, Spec.dataCodewords, List.map_append, List.map_replicate, List.sum_append_nat,
    List.sum_replicate_nat]
  constructor
  · rw [blocks_sum hr he, Nat.div_add_mod]
  · have e1 : ∀ s, Spec.eccLen v l ≤ s → s - (s - Spec.eccLen v l) = Spec.eccLen v l := fun s h => by omega
    rw [e1 _ he, e1 _ (Nat.le_succ_of_le he), ← Nat.add_mul, Nat.sub_add_cancel hr, Nat.mul_comm]

/-- ISO Table 9, all 160 rows.  Evaluated per row: the EC length is listed in `eccLengths` and smaller than the short block,
    which is shorter than 153 (so every block is shorter than 255, the order of `α`, which the distance bound needs); the rest is the shape of `Spec.isoBlocks`
    (`isoBlocks_sums`). -/
theorem isoBlocks_facts : ∀ v, v < 40 → ∀ l : Spec.Level,
    ((Spec.isoBlocks (v + 1) l).map (·.2)).sum = Spec.dataCodewords (v + 1) l ∧
    ((Spec.isoBlocks (v + 1) l).map (·.2)).sum + ((Spec.isoBlocks (v + 1) l).map fun b => b.1 - b.2).sum =
      Spec.totalCodewords (v + 1) ∧
    Spec.eccLen (v + 1) l ∈ eccLengths ∧
    ∀ b ∈ Spec.isoBlocks (v + 1) l, 1 ≤ b.2 ∧ b.1 - b.2 = Spec.eccLen (v + 1) l ∧ b.1 ≤ 153 := by
  have h : (List.range 40).all (fun v => allLevels.all fun l =>
      eccLengths.contains (Spec.eccLen (v + 1) l) && decide (1 ≤ Spec.blockCount (v + 1) l) &&
      decide (Spec.eccLen (v + 1) l < Spec.totalCodewords (v + 1) / Spec.blockCount (v + 1) l) &&
      decide (Spec.totalCodewords (v + 1) / Spec.blockCount (v + 1) l < 153)) = true := by
    decide +kernel
  intro v hv l
  have := forall_mem_of_all (forall_lt_of_all h v hv) l (mem_allLevels l)
  simp only [Bool.and_eq_true, decide_eq_true_eq, List.contains_iff_mem] at this
  obtain ⟨⟨⟨hmem, hnb⟩, he⟩, hs⟩ := this
  obtain ⟨hd, hec⟩ := isoBlocks_sums hnb (Nat.le_of_lt he)
  refine ⟨hd, ?_, hmem, ?_⟩
  · have h1 := Nat.mul_le_mul_right (Spec.blockCount (v + 1) l) (Nat.le_of_lt he)
    have h2 := Nat.div_mul_le_self (Spec.totalCodewords (v + 1)) (Spec.blockCount (v + 1) l)
    rw [hd, hec, Spec.dataCodewords]
    omega
  · intro b hb
    simp only [Spec.isoBlocks, List.mem_append, List.mem_replicate] at hb
    rcases hb with ⟨_, rfl⟩ | ⟨_, rfl⟩
    · exact ⟨by omega, by omega, by omega⟩
    · exact ⟨by omega, by omega, by omega⟩

/-- the look-up table holds, for every block shape of Table 9, exactly the ISO generator ∏_{i<e}(x − α^i) -/
theorem C02_genpoly : ∀ e ∈ eccLengths, Gen.rsPoly_LUT.lookup e = some (Spec.generator e) := by
  have h : eccLengths.all (fun e => Gen.rsPoly_LUT.lookup e == some (Spec.generator e)) = true := by decide +kernel
  intro e he; simpa using forall_mem_of_all h e he

/-- no generator of Table 9 has a zero coefficient (`glog` would raise on one): read off the look-up table, which holds
    them; that they are monic of degree `e` with roots `α^0 .. α^(e-1)` holds for every `e` (`QR.Proofs.generator_root` and
    its neighbours) -/
theorem generator_ne_zero : ∀ e ∈ eccLengths, ∀ c ∈ Spec.generator e, c ≠ 0 := by
  have h : Gen.rsPoly_LUT.all (fun p => p.2.all (· != 0)) = true := by decide +kernel
  intro e he c hc
  obtain ⟨l₁, l₂, hl, _⟩ := List.lookup_eq_some_iff.mp (C02_genpoly e he)
  have hmem : (e, Spec.generator e) ∈ Gen.rsPoly_LUT := by
    rw [hl]
    exact List.mem_append_right _ List.mem_cons_self
  simpa using forall_mem_of_all (forall_mem_of_all h _ hmem) c hc

/-- `base.rs_blocks` returns ISO Table 9 (block count, total and data codewords, short blocks first) for all
    160 (version, level) pairs -/
theorem C02_table : ∀ v, v < 40 → ∀ l ∈ allLevels,
    Model.rsBlocks (v + 1) l.indicator = .ok (Spec.isoBlocks (v + 1) l) := by
  have h : (List.range 40).all (fun v => allLevels.all fun l =>
      (Model.rsBlocks (v + 1) l.indicator).toOption == some (Spec.isoBlocks (v + 1) l)) = true := by decide +kernel
  exact fun v hv l hl => R.eq_ok_of_toOption (eq_of_beq (forall_mem_of_all (forall_lt_of_all h v hv) l hl))

end Props
end QR
