import QR.Gen.Code
import QR.Model.QRObject
/-
Translation validation (plugin `tools/t2_fragments/frag_b.py`): `QRCode.make` and `QRCode.makeImpl` as they stand in the source
(tests, which helper is called in which branch with which arguments; translated into `QR.Gen.Code.make_*` / `makeImpl_*`)
against `Model.makeS` and the functional `Model.makeImpl`; the cache miss (`Model.blank`) is tied in Props/C05.lean
(`C05_source_blank_src`).  `makeSrc` is what the capstone theorems about `make` (`C11_source_capstone_*`,
`C01_source_capstone_make_read`, `C03_source_capstone_make_total`) and the operation sequences of CapstoneObject.lean are stated on.
-/
namespace QR.CapstoneE3
open QR.Model QR.Gen.Code

/-- `QRCode.make(fit)` as assembled from the translated pieces (`QR.Gen.Code.make_*`): `self.data_cache = None` first; reading
    the `version` property (in the test when `fit` is false, in the call's argument otherwise) runs `best_fit()` when
    `_version is None`, so that the value read is never `None` (second argument of `make_fit_test`); then the re-fit from the
    current version; then `makeImpl(False, ...)` with the mask of `best_mask_pattern()` when `mask_pattern is None`, the
    configured mask otherwise.  The callees `best_fit`, `best_mask_pattern`, `makeImpl` are the Model's `bestFitS`, `bestMaskS`,
    `makeImplS` (tied to the source by their own bridge theorems). -/
def makeSrc (fit : Bool) (g : Global) (s : QRState) : St × R Unit :=
  (let s := { s with dataCache := make_reset_value }
   let (s, r1) := if s.version = 0 then bestFitS 4 0 s else (s, .ok s.version)
   match r1 with
   | .error e => ((g, s), .error e)
   | .ok _ =>
     let (s, r2) := if make_fit_test fit false then bestFitS 4 (make_fit_start s.version) s else (s, .ok s.version)
     match r2 with
     | .error e => ((g, s), .error e)
     | .ok _ =>
       if make_mask_test s.mask.isNone then
         match bestMaskS (g, s) with
         | (st, .error e) => (st, .error e)
         | (st, .ok m) => makeImplS make_none_test_arg m st
       else makeImplS make_some_test_arg (make_some_mask_arg (s.mask.getD 0)) (g, s))

theorem makeSrc_eq (fit : Bool) (g : Global) (s : QRState) : makeSrc fit g s = makeS fit (g, s) := by
  unfold makeS makeSrc
  simp only [make_reset_value, make_fit_test, make_fit_start, make_mask_test, make_none_test_arg, make_some_test_arg,
    make_some_mask_arg, Bool.or_false]
  rcases h1 : (if s.version = 0 then bestFitS 4 0 { s with dataCache := none }
      else ({ s with dataCache := none }, Except.ok s.version) : QRState × R Nat) with ⟨s1, r1⟩
  dsimp only
  cases r1 with
  | error e => rfl
  | ok v =>
    dsimp only
    rcases h2 : (if fit = true then bestFitS 4 s1.version s1 else (s1, Except.ok s1.version) : QRState × R Nat)
      with ⟨s2, r2⟩
    dsimp only
    cases r2 with
    | error e => rfl
    | ok v2 => cases s2.mask <;> rfl

end QR.CapstoneE3

namespace QR.SourceTieB
open QR.Model QR.Gen.Code

/-- the functional `makeImpl` (given the codewords): the blank, `setup_type_info`, `setup_type_number` under the translated
    version test, the translated mask check, `map_data`, each with the translated arguments -/
theorem makeImpl_src (version level : Nat) (test : Bool) (mask : Nat) (data : List Nat) :
    makeImpl version level test mask data = (do
      let n := makeImpl_modules_count version
      let m ← blank version
      let m := setupTypeInfo n level m (makeImpl_type_info_args test mask).1 (makeImpl_type_info_args test mask).2
      let m := if makeImpl_type_number_test version then setupTypeNumber n version m (makeImpl_type_number_arg test) else m
      if (makeImpl_map_args mask).2 > 7 then .error .typeError
      else pure (mapData n m data (makeImpl_map_args mask).2)) := by
  unfold makeImpl
  simp only [makeImpl_modules_count, makeImpl_type_info_args, makeImpl_type_number_test, makeImpl_type_number_arg,
    makeImpl_map_args, decide_eq_true_eq]

end QR.SourceTieB
