import QR.Proofs.Blank
import QR.Proofs.TypeInfo
import QR.Proofs.PlacementSpec
import QR.Proofs.Compile
/-
C05 / C01, composition: the matrix `makeImpl` returns, cell by cell.
  blank (finder, separator, timing, alignment)  = `Spec.blankCell`     (Blank.lean)
  setup_type_info / setup_type_number            = `Spec.infoCell`      (TypeInfo.lean)
  map_data                                       = zig-zag placement    (PlacementSpec.lean)
glued by `isFunction_iff`: inside the symbol a cell is a function module iff `blankCell` or `infoCell` is defined there.
-/
namespace QR.Props

/-- the Boolean view of a model matrix handed to the Spec reader (`Spec.read` in C01, `Spec.chooseMask` in C09) -/
def symOf (m : Model.Mat) : Spec.Sym :=
  { n := m.size, get := fun r c => (m.get r c).getD false }

end QR.Props

namespace QR.Sym

theorem blankCell_isSome_iff (v r c : Nat) :
    (Spec.blankCell v r c).isSome = true ↔
      (Spec.inFinderArea (Spec.size v) r c = true ∨ Spec.inAlignment v r c = true ∨
        Spec.inTiming (Spec.size v) r c = true) := by
  unfold Spec.blankCell
  simp only []
  cases Spec.inFinderArea (Spec.size v) r c <;> cases Spec.inAlignment v r c <;>
    cases Spec.inTiming (Spec.size v) r c <;> simp

theorem isFunction_iff (v level mask : Nat) (hv : 1 ≤ v) (test : Bool) (r c : Nat)
    (hr : r < Spec.size v) (hc : c < Spec.size v) :
    Spec.isFunction v r c = true ↔
      ((Spec.blankCell v r c).isSome = true ∨ (Spec.infoCell v level mask test r c).isSome = true) := by
  rw [blankCell_isSome_iff, GeoB.infoCell_isSome_iff v level mask hv test r c hr hc]
  unfold Spec.isFunction
  simp only [Bool.or_eq_true]
  -- the same six disjuncts, regrouped
  grind

theorem infoCell_none_of_blank (v level mask : Nat) (h1 : 1 ≤ v) (h40 : v ≤ 40) (test : Bool) (r c : Nat)
    (hr : r < Spec.size v) (hc : c < Spec.size v) {b : Bool} (h : Spec.blankCell v r c = some b) :
    Spec.infoCell v level mask test r c = none := by
  cases hi : Spec.infoCell v level mask test r c with
  | none => rfl
  | some x =>
    have hcell := (GeoB.infoCell_isSome_iff v level mask h1 test r c hr hc).mp (by rw [hi]; rfl)
    rw [GeoB.blankCell_none_of_info v r c h1 h40 (hcell.imp_right Or.symm)] at h
    cases h

theorem infoCell_of_isDarkModule (v level mask : Nat) (hv : 1 ≤ v) (test : Bool) (r c : Nat)
    (h : Spec.isDarkModule (Spec.size v) r c = true) : Spec.infoCell v level mask test r c = some (!test) := by
  simp only [Spec.isDarkModule, Bool.and_eq_true, beq_iff_eq] at h
  rw [h.1, h.2]
  exact GeoB.infoCell_dark v level mask test hv

/-- `fixedColour` = `blankCell`, plus the dark module -/
theorem fixedColour_cases (v r c : Nat) (b : Bool) (h : Spec.fixedColour v r c = some b) :
    Spec.blankCell v r c = some b ∨ (Spec.isDarkModule (Spec.size v) r c = true ∧ b = true) := by
  unfold Spec.fixedColour at h
  unfold Spec.blankCell
  simp only [] at h ⊢
  cases h1 : Spec.inFinderArea (Spec.size v) r c <;> cases h2 : Spec.inAlignment v r c <;>
    cases h3 : Spec.inTiming (Spec.size v) r c <;> cases h4 : Spec.isDarkModule (Spec.size v) r c <;>
    simp_all

/-- a matrix `makeImpl` returns is `map_data` on a matrix `T` (blank + type info + type number) whose `None` cells are
    exactly the non-function modules and whose other cells hold `blankCell` / `infoCell`; that one was returned bounds the
    version and the mask (`makeImpl_ok_iff`) -/
theorem makeImpl_mapData {v level mask : Nat} {test : Bool} {data : List Nat} {M : Model.Mat}
    (h1 : 1 ≤ v) (hl : level < 4) (hM : Model.makeImpl v level test mask data = .ok M) :
    v ≤ 40 ∧ mask < 8 ∧ ∃ T, M = Model.mapData (Spec.size v) T data mask ∧
      MatShape T (Spec.size v) ∧ GeoC.NoneIffData v T ∧
      (∀ r c b, r < Spec.size v → c < Spec.size v → Spec.blankCell v r c = some b → T.get r c = some b) ∧
      (∀ r c b, r < Spec.size v → c < Spec.size v → Spec.infoCell v level mask test r c = some b →
        T.get r c = some b) := by
  obtain ⟨h40, hk⟩ := (makeImpl_ok_iff ..).1 ⟨M, hM⟩
  obtain ⟨B, hB, hBs, hBg⟩ := blank_spec v h1 h40
  obtain ⟨hTs, hTg⟩ := GeoB.typeInfo_get v level mask test B h1 h40 hl hk hBs
  generalize hT : (if v ≥ 7 then Model.setupTypeNumber (Spec.size v) v
      (Model.setupTypeInfo (Spec.size v) level B test mask) test
    else Model.setupTypeInfo (Spec.size v) level B test mask) = T at hTs hTg
  refine ⟨h40, hk, T, ?_, hTs, ?_, ?_, ?_⟩
  · rw [QR.makeImpl_eq, hB, R.bind_ok, if_neg (by omega)] at hM
    simp only [Spec.size_eq, hT] at hM
    exact (Except.ok.inj hM).symm
  · intro r c hr hc
    rw [hTg r c hr hc, ← Bool.not_eq_true, isFunction_iff v level mask h1 test r c hr hc, hBg r c hr hc]
    cases Spec.infoCell v level mask test r c <;> cases Spec.blankCell v r c <;> simp
  · intro r c b hr hc hb
    rw [hTg r c hr hc, infoCell_none_of_blank v level mask h1 h40 test r c hr hc hb, hBg r c hr hc, hb]
  · intro r c b hr hc hb
    rw [hTg r c hr hc, hb]

/-- what `makeImpl` builds: a full-size matrix in which every module is definite, the finder / separator / timing /
    alignment modules hold their ISO colours, the format / version / dark-module cells hold the bits of the ISO words, and
    the remaining cells, read in zig-zag order and unmasked, are the codeword bits cut or zero-padded to their number -/
structure Built (v level mask : Nat) (test : Bool) (data : List Nat) (M : Model.Mat) : Prop where
  shape : MatShape M (Spec.size v)
  definite : ∀ r c, r < Spec.size v → c < Spec.size v → (M.get r c).isSome = true
  blank : ∀ r c b, r < Spec.size v → c < Spec.size v → Spec.blankCell v r c = some b → M.get r c = some b
  info : ∀ r c b, r < Spec.size v → c < Spec.size v → Spec.infoCell v level mask test r c = some b →
    M.get r c = some b
  raw : ∀ S : Spec.Sym, GeoC.Shows S (Spec.size v) M →
    Spec.readRaw S v mask = GeoC.padTake (Spec.rawModules v) (Model.codewordBits data)
  codewords : ∀ S : Spec.Sym, GeoC.Shows S (Spec.size v) M → data.length = Spec.totalCodewords v →
    (∀ b ∈ data, b < 256) →
    (Spec.readRaw S v mask).length = Spec.rawModules v ∧
    Spec.bytesOfBits (Spec.totalCodewords v) (Spec.readRaw S v mask) = data ∧
    (Spec.readRaw S v mask).drop (8 * Spec.totalCodewords v) = List.replicate (Spec.remainderBits v) false
  /-- cell form of the placement: the `i`-th cell `(r, c)` of the ISO zig-zag order, when it is not a function module,
      holds bit `k` of the codeword stream (zero past its end; independent of `test` and of the mask) xor the mask
      condition, `k` = number of non-function cells before it -/
  cell : ∀ (i : Nat) (hi : i < (Spec.zigzag (Spec.size v)).length) (r c : Nat),
    (Spec.zigzag (Spec.size v))[i] = (r, c) → Spec.isFunction v r c = false →
    M.get r c = some (xor ((Model.codewordBits data).getD
        (((Spec.zigzag (Spec.size v)).take i).countP fun p => !Spec.isFunction v p.1 p.2) false)
      (Spec.maskCond mask r c))

/-- so a final symbol (`test = false`) holds every fixed colour of the ISO layout: those of `blankCell`, and the dark module -/
theorem Built.fixed {v level mask : Nat} {data : List Nat} {M : Model.Mat} (hB : Built v level mask false data M)
    (h1 : 1 ≤ v) {r c : Nat} {b : Bool} (hr : r < Spec.size v) (hc : c < Spec.size v)
    (h : Spec.fixedColour v r c = some b) : M.get r c = some b := by
  rcases fixedColour_cases v r c b h with hb | ⟨hd, rfl⟩
  · exact hB.blank r c b hr hc hb
  · exact hB.info r c true hr hc (infoCell_of_isDarkModule v level mask h1 false r c hd)

/-- whatever `makeImpl` returns is built so, for every version, level, mask, test flag and codeword list -/
theorem makeImpl_of_ok {v level mask : Nat} {test : Bool} {data : List Nat} {M : Model.Mat}
    (h1 : 1 ≤ v) (hl : level < 4) (hM : Model.makeImpl v level test mask data = .ok M) :
    Built v level mask test data M := by
  obtain ⟨h40, hk, T, rfl, hTs, hnone, hblank, hinfo⟩ := makeImpl_mapData h1 hl hM
  exact {
    shape := GeoC.mapData_shape _ _ _ hTs _
    definite := GeoC.mapData_all_some v mask T hTs hnone data
    blank := fun r c b hr hc hb => GeoC.mapData_keeps hTs (hblank r c b hr hc hb)
    info := fun r c b hr hc hb => GeoC.mapData_keeps hTs (hinfo r c b hr hc hb)
    raw := GeoC.readRaw_mapData v mask h1 h40 hk T hTs hnone data
    codewords := fun S hS hlen hby => GeoC.readRaw_codewords v mask h1 h40 hk T hTs hnone data hlen hby S hS
    cell := fun i hi r c e hf => by
      have := GeoC.mapData_nth v mask hk T hTs hnone data i hi (by rw [e]; exact hf)
      rwa [e] at this }

end QR.Sym
