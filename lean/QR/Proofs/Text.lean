import QR.Proofs.Frame
/-
C15: the texts written by `Model.printTty` / `Model.printAscii`, read by the independent readers of `QR.Spec.Render`,
give back the framed module matrix.  The readers run on fuel; `Reads` (for `readTtyLine`) and `Strips` (for `stripSgr`)
say what a reader does on a piece of text whatever follows it, with one lemma per piece (escape sequence, spaces, glyphs)
and `append` to glue them, so that a printed line is read by composing the lemmas of its pieces.
-/
namespace QR.Proofs.Text

theorem esc_light : Model.esc "[1;47m" = [27, 91, 49, 59, 52, 55, 109] := by
  rw [Model.esc, String.toList_ofList]; rfl
theorem esc_dark : Model.esc "[40m" = [27, 91, 52, 48, 109] := by
  rw [Model.esc, String.toList_ofList]; rfl
theorem esc_reset : Model.esc "[0m" = [27, 91, 48, 109] := by
  rw [Model.esc, String.toList_ofList]; rfl
theorem esc_bg232 : Model.esc "[48;5;232m" = [27, 91, 52, 56, 59, 53, 59, 50, 51, 50, 109] := by
  rw [Model.esc, String.toList_ofList]; rfl
theorem esc_fg255 : Model.esc "[38;5;255m" = [27, 91, 51, 56, 59, 53, 59, 50, 53, 53, 109] := by
  rw [Model.esc, String.toList_ofList]; rfl

theorem mapM_option_eq_some {α β} (f : α → Option β) (g : α → β) (l : List α)
    (h : ∀ x ∈ l, f x = some (g x)) : l.mapM f = some (l.map g) := by
  have := mapM_map_option_eq_some id f g l h
  rwa [List.map_id] at this

theorem splitLines_lines (ls : List (List Nat)) (h : ∀ l ∈ ls, 10 ∉ l) (fuel : Nat) (hf : ls.length ≤ fuel) :
    Spec.splitLines fuel (ls.flatMap (· ++ [10])) = ls := by
  induction ls generalizing fuel with
  | nil => cases fuel <;> rfl
  | cons l ls ih =>
    cases fuel with
    | zero => cases hf
    | succ f =>
      have hl : 10 ∉ l := h l List.mem_cons_self
      rw [List.flatMap_cons, List.append_assoc, List.singleton_append, Spec.splitLines.eq_3 _ _ (by simp),
        takeWhile_ne_append_cons _ hl, dropWhile_ne_append_cons _ hl, List.drop_succ_cons, List.drop_zero,
        ih (fun x hx => h x (List.mem_cons_of_mem _ hx)) f (Nat.le_of_succ_le_succ hf)]

theorem readTtyLine_esc (fuel : Nat) (bg : Option Bool) (t : List Nat) :
    Spec.readTtyLine (fuel + 1) bg (0x1B :: t) =
      (let params := (t.drop 1).takeWhile (· ≠ 109)
       let rest := (t.dropWhile (· ≠ 109)).drop 1
       let ps := String.ofList (params.map Char.ofNat)
       let bg' := if ps = "0" then none else if ps = "40" then some true else if ps = "1;47" then some false else bg
       Spec.readTtyLine fuel bg' rest) := by
  simp only [Spec.readTtyLine, ↓reduceIte]

theorem readTtyLine_sp (fuel : Nat) (b : Bool) (t : List Nat) :
    Spec.readTtyLine (fuel + 1) (some b) (32 :: 32 :: t) = (Spec.readTtyLine fuel (some b) t).map (b :: ·) := by
  rw [Spec.readTtyLine, if_neg (by decide), if_pos rfl]

theorem readTtyLine_mono (fuel : Nat) (bg : Option Bool) (s : List Nat) (r : List Bool)
    (h : Spec.readTtyLine fuel bg s = some r) : Spec.readTtyLine (fuel + 1) bg s = some r := by
  fun_induction Spec.readTtyLine fuel bg s generalizing r with
  | case1 => cases h
  | case2 => exact h
  | case3 fuel bg t params rest ps bg' ih =>
    rw [readTtyLine_esc]
    exact ih r h
  | case4 fuel t' b _ ih =>
    rw [readTtyLine_sp]
    cases hq : Spec.readTtyLine fuel (some b) t' with
    | none => rw [hq] at h; cases h
    | some q => rw [hq] at h; rw [ih q hq]; exact h
  | case5 => cases h
  | case6 => cases h

theorem readTtyLine_mono_add {fuel : Nat} (k : Nat) {bg : Option Bool} {s : List Nat} {r : List Bool}
    (h : Spec.readTtyLine fuel bg s = some r) : Spec.readTtyLine (fuel + k) bg s = some r := by
  induction k with
  | zero => exact h
  | succ k ih => exact readTtyLine_mono _ _ _ _ ih

/-- `Reads bg s bg' out`: starting with background `bg`, the reader consumes the text `s`, emits the modules `out`
and continues with background `bg'` -/
def Reads (bg : Option Bool) (s : List Nat) (bg' : Option Bool) (out : List Bool) : Prop :=
  ∀ fuel rest R, Spec.readTtyLine fuel bg' rest = some R →
    Spec.readTtyLine (fuel + s.length) bg (s ++ rest) = some (out ++ R)

theorem Reads.nil (bg : Option Bool) : Reads bg [] bg [] := by
  intro fuel rest R h; simpa using h

theorem Reads.append {bg bg1 bg2 : Option Bool} {s1 s2 : List Nat} {o1 o2 : List Bool}
    (h1 : Reads bg s1 bg1 o1) (h2 : Reads bg1 s2 bg2 o2) : Reads bg (s1 ++ s2) bg2 (o1 ++ o2) := by
  intro fuel rest R h
  have := h1 _ _ _ (h2 fuel rest R h)
  simpa [Nat.add_assoc, Nat.add_comm s1.length] using this

/-- an SGR sequence `ESC c params m` emits nothing and sets the background as `readTtyLine` reads `params` -/
theorem Reads.sgr (bg bg' : Option Bool) (c : Nat) (ps : List Nat) (h : 109 ∉ c :: ps)
    (hbg : (let s := String.ofList (ps.map Char.ofNat)
            if s = "0" then none else if s = "40" then some true else if s = "1;47" then some false else bg) = bg') :
    Reads bg (27 :: (c :: ps) ++ [109]) bg' [] := by
  intro fuel rest R hR
  have h' := readTtyLine_mono_add (ps.length + 2) hR
  have hlen : (27 :: (c :: ps) ++ [109]).length = ps.length + 2 + 1 := by simp
  have hps : 109 ∉ ps := fun hm => h (List.mem_cons_of_mem _ hm)
  rw [hlen, ← Nat.add_assoc]
  simp only [List.cons_append, List.append_assoc, List.nil_append]
  rw [readTtyLine_esc, ← List.cons_append, dropWhile_ne_append_cons rest h, List.cons_append, List.drop_succ_cons,
    List.drop_zero, takeWhile_ne_append_cons rest hps, List.drop_succ_cons, List.drop_zero]
  rw [← hbg] at h'
  exact h'

theorem Reads.light (bg : Option Bool) : Reads bg (Model.esc "[1;47m") (some false) [] := by
  rw [esc_light]; exact Reads.sgr bg _ 91 [49, 59, 52, 55] (by decide) rfl
theorem Reads.dark (bg : Option Bool) : Reads bg (Model.esc "[40m") (some true) [] := by
  rw [esc_dark]; exact Reads.sgr bg _ 91 [52, 48] (by decide) rfl
theorem Reads.reset (bg : Option Bool) : Reads bg (Model.esc "[0m") none [] := by
  rw [esc_reset]; exact Reads.sgr bg _ 91 [48] (by decide) rfl

theorem Reads.sp2 (b : Bool) : Reads (some b) (Model.sp 2) (some b) [b] := by
  intro fuel rest R h
  have h' := readTtyLine_mono_add 1 h
  show Spec.readTtyLine (fuel + 1 + 1) (some b) (32 :: 32 :: rest) = _
  rw [readTtyLine_sp]
  simp [h']

theorem Reads.sp (b : Bool) (k : Nat) : Reads (some b) (Model.sp (k * 2)) (some b) (List.replicate k b) := by
  induction k with
  | zero => simpa [Model.sp] using Reads.nil (some b)
  | succ k ih =>
    have : Model.sp ((k + 1) * 2) = Model.sp 2 ++ Model.sp (k * 2) := by
      simp only [Model.sp, List.replicate_append_replicate]; congr 1; omega
    rw [this, List.replicate_succ]
    exact Reads.append (Reads.sp2 b) ih

theorem Reads.line {s : List Nat} {bg' : Option Bool} {out : List Bool} (h : Reads none s bg' out) :
    Spec.readTtyLine (s.length + 1) none s = some out := by
  have := h 1 [] [] (by simp [Spec.readTtyLine])
  simpa [Nat.add_comm] using this

/-- the text of one module of `print_tty` -/
def ttyCell (M : Model.Mods) (r c : Nat) : List Nat :=
  if (M.getD r []).getD c false then Model.sp 2 else Model.esc "[1;47m" ++ Model.sp 2 ++ Model.esc "[40m"

def ttyFrameLine (n : Nat) : List Nat := Model.esc "[1;47m" ++ Model.sp (n * 2 + 4) ++ Model.esc "[0m"

def ttyRowLine (M : Model.Mods) (n r : Nat) : List Nat :=
  Model.esc "[1;47m" ++ Model.sp 2 ++ Model.esc "[40m" ++ (List.range n).flatMap (ttyCell M r)
    ++ Model.esc "[1;47m" ++ Model.sp 2 ++ Model.esc "[0m"

def ttyLines (M : Model.Mods) (n : Nat) : List (List Nat) :=
  [ttyFrameLine n] ++ (List.range n).map (ttyRowLine M n) ++ [ttyFrameLine n]

theorem printTty_eq_lines (M : Model.Mods) (n : Nat) :
    Model.printTty M n = (ttyLines M n).flatMap (· ++ [10]) := by
  simp only [Model.printTty, ttyLines, List.flatMap_append, List.flatMap_cons, List.flatMap_nil,
    List.flatMap_map, List.append_nil]
  rfl

theorem ttyCell_no_nl (M : Model.Mods) (r c : Nat) : 10 ∉ ttyCell M r c := by
  unfold ttyCell
  split <;> simp [esc_light, esc_dark, Model.sp]

theorem ttyLines_no_nl (M : Model.Mods) (n : Nat) : ∀ l ∈ ttyLines M n, 10 ∉ l := by
  have hf : 10 ∉ ttyFrameLine n := by simp [ttyFrameLine, esc_light, esc_reset, Model.sp]
  intro l hl
  simp only [ttyLines, List.mem_append, List.mem_singleton, List.mem_map, List.mem_range] at hl
  rcases hl with (rfl | ⟨r, _, rfl⟩) | rfl
  · exact hf
  · simp [ttyRowLine, esc_light, esc_dark, esc_reset, Model.sp, ttyCell_no_nl]
  · exact hf

theorem Reads.cells (M : Model.Mods) (r : Nat) (l : List Nat) :
    Reads (some true) (l.flatMap (ttyCell M r)) (some true) (l.map (Spec.modAt M r)) := by
  induction l with
  | nil => simpa using Reads.nil (some true)
  | cons c l ih =>
    rw [List.flatMap_cons, List.map_cons]
    have hc : Reads (some true) (ttyCell M r c) (some true) [Spec.modAt M r c] := by
      unfold ttyCell Spec.modAt
      cases h : (M.getD r []).getD c false with
      | true => simpa using Reads.sp2 true
      | false =>
        simpa using Reads.append (Reads.append (Reads.light (some true)) (Reads.sp2 false)) (Reads.dark (some false))
    exact Reads.append hc ih

theorem readTtyLine_frameLine (n : Nat) :
    Spec.readTtyLine ((ttyFrameLine n).length + 1) none (ttyFrameLine n) = some (List.replicate (n + 2) false) := by
  apply Reads.line (bg' := none)
  have h := Reads.append (Reads.append (Reads.light none) (Reads.sp false (n + 2))) (Reads.reset (some false))
  have e : (n + 2) * 2 = n * 2 + 4 := by omega
  simpa [ttyFrameLine, e] using h

theorem readTtyLine_rowLine (M : Model.Mods) (n r : Nat) :
    Spec.readTtyLine ((ttyRowLine M n r).length + 1) none (ttyRowLine M n r)
      = some ([false] ++ (List.range n).map (Spec.modAt M r) ++ [false]) := by
  apply Reads.line (bg' := none)
  have h := Reads.append (Reads.append (Reads.append (Reads.append (Reads.append (Reads.append
    (Reads.light none) (Reads.sp2 false)) (Reads.dark (some false))) (Reads.cells M r (List.range n)))
    (Reads.light (some true))) (Reads.sp2 false)) (Reads.reset (some false))
  simpa [ttyRowLine] using h

/-- **C15 (tty)** for an arbitrary matrix read through `getD`: the colour-escape text reads back to the symbol framed
by one light module -/
theorem readTty_printTty_any (M : Model.Mods) (n : Nat) :
    Spec.readTty (Model.printTty M n) = some (Spec.frame M n 1) := by
  unfold Spec.readTty
  rw [printTty_eq_lines, splitLines_lines _ (ttyLines_no_nl M n)]
  · rw [Frame.frame_eq_blocks]
    have hrows := mapM_map_option_eq_some (ttyRowLine M n)
      (fun line => Spec.readTtyLine (line.length + 1) none line)
      (fun r => [false] ++ (List.range n).map (Spec.modAt M r) ++ [false]) (List.range n)
      (fun r _ => readTtyLine_rowLine M n r)
    simp only [ttyLines, List.mapM_append, List.mapM_cons, List.mapM_nil, readTtyLine_frameLine, hrows]
    -- all lines read: the binds of `some`s, and `replicate 1 x = [x]` on the frame's side
    simp only [Option.pure_def, Option.bind_eq_bind, Option.bind_some, List.cons_append, List.nil_append,
      Nat.mul_one, List.replicate_one]
  · have := length_le_flatMap (ttyLines M n) (· ++ [10]) (by intro x _; simp)
    omega

theorem stripSgr_esc (f : Nat) (t : List Nat) :
    Spec.stripSgr (f + 1) (0x1B :: t) = Spec.stripSgr f ((t.dropWhile (· ≠ 109)).drop 1) := by
  rw [Spec.stripSgr, if_pos rfl]

theorem stripSgr_plain {f c : Nat} {t : List Nat} (h : c ≠ 0x1B) :
    Spec.stripSgr (f + 1) (c :: t) = c :: Spec.stripSgr f t := by
  rw [Spec.stripSgr, if_neg h]

theorem stripSgr_fuel {f1 f2 : Nat} {s : List Nat} (h1 : s.length ≤ f1) (h2 : s.length ≤ f2) :
    Spec.stripSgr f1 s = Spec.stripSgr f2 s := by
  fun_induction Spec.stripSgr f1 s generalizing f2 with
  | case1 s =>
    cases s with
    | nil => cases f2 <;> rfl
    | cons c t => cases h1
  | case2 => cases f2 <;> rfl
  | case3 f t ih =>
    cases f2 with
    | zero => cases h2
    | succ g =>
      rw [stripSgr_esc]
      have := (List.dropWhile_sublist (l := t) (· ≠ 109)).length_le
      rw [List.length_cons] at h1 h2
      exact ih (by rw [List.length_drop]; omega) (by rw [List.length_drop]; omega)
  | case4 f c t hc ih =>
    cases f2 with
    | zero => cases h2
    | succ g => rw [stripSgr_plain hc, ih (Nat.le_of_succ_le_succ h1) (Nat.le_of_succ_le_succ h2)]

/-- `Strips s out`: the escape stripper turns the text `s` into `out`, whatever follows -/
def Strips (s out : List Nat) : Prop :=
  ∀ fuel rest, (s ++ rest).length ≤ fuel → Spec.stripSgr fuel (s ++ rest) = out ++ Spec.stripSgr rest.length rest

theorem Strips.nil : Strips [] [] := by
  intro fuel rest h
  simpa using stripSgr_fuel (by simpa using h) (Nat.le_refl _)

theorem Strips.append {s1 s2 o1 o2 : List Nat} (h1 : Strips s1 o1) (h2 : Strips s2 o2) :
    Strips (s1 ++ s2) (o1 ++ o2) := by
  intro fuel rest h
  rw [List.append_assoc] at h ⊢
  rw [h1 fuel (s2 ++ rest) h, h2 _ rest (Nat.le_refl _), List.append_assoc]

theorem Strips.plain (g : List Nat) (h : 27 ∉ g) : Strips g g := by
  induction g with
  | nil => exact Strips.nil
  | cons c g ih =>
    intro fuel rest hf
    simp only [List.mem_cons, not_or] at h
    cases fuel with
    | zero => simp at hf
    | succ f =>
      have hc : c ≠ 0x1B := fun e => h.1 e.symm
      rw [List.cons_append, stripSgr_plain hc, ih h.2 f rest (by simpa using hf), List.cons_append]

theorem Strips.sgr (body : List Nat) (h : 109 ∉ body) : Strips (27 :: body ++ [109]) [] := by
  intro fuel rest hf
  cases fuel with
  | zero => simp at hf
  | succ f =>
    simp only [List.cons_append, List.append_assoc, List.nil_append]
    rw [stripSgr_esc, dropWhile_ne_append_cons rest h]
    simp only [List.drop_succ_cons, List.drop_zero]
    apply stripSgr_fuel _ (Nat.le_refl _)
    simp at hf; omega

theorem Strips.flatMap {α} (l : List α) (f g : α → List Nat) (h : ∀ x ∈ l, Strips (f x) (g x)) :
    Strips (l.flatMap f) (l.flatMap g) := by
  induction l with
  | nil => simpa using Strips.nil
  | cons a l ih =>
    rw [List.flatMap_cons, List.flatMap_cons]
    exact Strips.append (h a (by simp)) (ih (fun x hx => h x (by simp [hx])))

theorem Strips.run {s out : List Nat} (h : Strips s out) (fuel : Nat) (hf : s.length ≤ fuel) :
    Spec.stripSgr fuel s = out := by
  have := h fuel [] (by simpa using hf)
  simpa [Spec.stripSgr] using this

theorem Strips.bg232 : Strips (Model.esc "[48;5;232m") [] := by
  rw [esc_bg232]; exact Strips.sgr [91, 52, 56, 59, 53, 59, 50, 51, 50] (by decide)
theorem Strips.fg255 : Strips (Model.esc "[38;5;255m") [] := by
  rw [esc_fg255]; exact Strips.sgr [91, 51, 56, 59, 53, 59, 50, 53, 53] (by decide)
theorem Strips.reset : Strips (Model.esc "[0m") [] := by
  rw [esc_reset]; exact Strips.sgr [91, 48] (by decide)

/-- the module shown at display row `R`, column `j` by `print_ascii`: the framed symbol, or the phantom half-row
below it when the height is odd -/
def aDark (M : Model.Mods) (n b : Nat) (inv : Bool) (R j : Nat) : Bool :=
  if R < n + 2 * b then Spec.framed M n b R j else (inv && decide (b ≠ 0))

theorem getModule_eq (M : Model.Mods) (n b : Nat) (inv : Bool) (R j : Nat) {x y : Int}
    (hx : x = (R : Int) - b) (hy : y = (j : Int) - b) (hR : R ≤ n + 2 * b) (hj : j < n + 2 * b) :
    Model.getModule M n b inv x y = if aDark M n b inv R j then 1 else 0 := by
  subst hx hy
  unfold Model.getModule aDark
  by_cases hR' : R < n + 2 * b
  · rw [if_pos hR', if_neg (by omega)]
    by_cases hin : (b ≤ R ∧ R < b + n) ∧ (b ≤ j ∧ j < b + n)
    · have hf := Frame.framed_inside M n b (R - b) (j - b) (by omega) (by omega)
      rw [Nat.add_sub_cancel' hin.1.1, Nat.add_sub_cancel' hin.2.1] at hf
      rw [if_neg (by omega), show ((R : Int) - b).toNat = R - b by omega, show ((j : Int) - b).toNat = j - b by omega, hf]
      rfl
    · rw [if_pos (by omega), Frame.framed_outside M n b R j (by omega)]; rfl
  · rw [if_neg hR']
    by_cases hc : inv = true ∧ b ≠ 0
    · rw [if_pos ⟨hc.1, hc.2, by omega⟩, hc.1, decide_eq_true hc.2]; rfl
    · rw [if_neg (fun h => hc ⟨h.1, h.2.1⟩), if_pos (by omega), if_neg]
      simpa only [Bool.and_eq_true, decide_eq_true_eq] using hc

/-- the glyph for an (upper, lower) pair of modules -/
def glyph (inv x y : Bool) : Nat :=
  (if inv then Model.asciiCodes.reverse else Model.asciiCodes).getD
    ((if x then 1 else 0) + 2 * (if y then 1 else 0)) 0

theorem glyph_ne_esc (inv x y : Bool) : glyph inv x y ≠ 27 := by
  cases inv <;> cases x <;> cases y <;> decide
theorem glyph_ne_nl (inv x y : Bool) : glyph inv x y ≠ 10 := by
  cases inv <;> cases x <;> cases y <;> decide
/-- reading a glyph with the convention ink = dark (normal) or ink = light (inverted) gives back the two modules -/
theorem glyphInk_glyph (inv x y : Bool) : Spec.glyphInk (glyph inv x y) = some (x != inv, y != inv) := by
  cases inv <;> cases x <;> cases y <;> decide

def asciiPre (n b : Nat) (tty inv : Bool) (k : Nat) : List Nat :=
  if tty then
    (if !inv ∨ (((2 * k : Nat) : Int) - (b : Int)) < (n : Int) + b - 1 then Model.esc "[48;5;232m" else [])
      ++ Model.esc "[38;5;255m"
  else []

def asciiPost (tty : Bool) : List Nat := if tty then Model.esc "[0m" else []

def asciiGlyphs (M : Model.Mods) (n b : Nat) (inv : Bool) (k : Nat) : List Nat :=
  (List.range (n + 2 * b)).map fun j => glyph inv (aDark M n b inv (2 * k) j) (aDark M n b inv (2 * k + 1) j)

theorem printAscii_eq (M : Model.Mods) (n b : Nat) (tty invert : Bool) :
    Model.printAscii M n b tty invert =
      (List.range ((n + 2 * b + 1) / 2)).flatMap fun k =>
        asciiPre n b tty (invert || tty) k ++ asciiGlyphs M n b (invert || tty) k ++ asciiPost tty ++ [10] := by
  unfold Model.printAscii
  simp only []
  unfold List.flatMap
  congr 1
  apply List.map_congr_left
  intro k hk
  simp only [List.mem_range] at hk
  unfold asciiPre asciiPost asciiGlyphs
  congr 3
  apply List.map_congr_left
  intro j hj
  simp only [List.mem_range] at hj
  rw [getModule_eq M n b (invert || tty) (2 * k) j rfl rfl (by omega) hj,
    getModule_eq M n b (invert || tty) (2 * k + 1) j (by omega) rfl (by omega) hj]
  rfl

theorem asciiGlyphs_no_esc (M : Model.Mods) (n b : Nat) (inv : Bool) (k : Nat) : 27 ∉ asciiGlyphs M n b inv k := by
  simp only [asciiGlyphs, List.mem_map, not_exists, not_and]
  intro j _ h
  exact glyph_ne_esc _ _ _ h

theorem asciiGlyphs_no_nl (M : Model.Mods) (n b : Nat) (inv : Bool) (k : Nat) : 10 ∉ asciiGlyphs M n b inv k := by
  simp only [asciiGlyphs, List.mem_map, not_exists, not_and]
  intro j _ h
  exact glyph_ne_nl _ _ _ h

theorem Strips.asciiPre (n b : Nat) (tty inv : Bool) (k : Nat) : Strips (asciiPre n b tty inv k) [] := by
  unfold Text.asciiPre
  cases tty with
  | false => exact Strips.nil
  | true =>
    simp only [if_true]
    split
    · exact Strips.append Strips.bg232 Strips.fg255
    · exact Strips.append Strips.nil Strips.fg255

theorem Strips.asciiPost (tty : Bool) : Strips (asciiPost tty) [] := by
  unfold Text.asciiPost
  cases tty with
  | false => exact Strips.nil
  | true => exact Strips.reset

theorem stripSgr_printAscii (M : Model.Mods) (n b : Nat) (tty invert : Bool) (fuel : Nat)
    (hf : (Model.printAscii M n b tty invert).length ≤ fuel) :
    Spec.stripSgr fuel (Model.printAscii M n b tty invert) =
      ((List.range ((n + 2 * b + 1) / 2)).map (asciiGlyphs M n b (invert || tty))).flatMap (· ++ [10]) := by
  apply Strips.run _ fuel hf
  rw [printAscii_eq, List.flatMap_map]
  apply Strips.flatMap
  intro k _
  have h := Strips.append (Strips.append (Strips.append (Strips.asciiPre n b tty (invert || tty) k)
    (Strips.plain _ (asciiGlyphs_no_esc M n b (invert || tty) k))) (Strips.asciiPost tty))
    (Strips.plain [10] (by decide))
  simpa using h

theorem splitLines_stripSgr_printAscii (M : Model.Mods) (n b : Nat) (tty invert : Bool) :
    Spec.splitLines ((Model.printAscii M n b tty invert).length + 1)
      (Spec.stripSgr ((Model.printAscii M n b tty invert).length + 1) (Model.printAscii M n b tty invert))
      = (List.range ((n + 2 * b + 1) / 2)).map (asciiGlyphs M n b (invert || tty)) := by
  rw [stripSgr_printAscii M n b tty invert _ (Nat.le_succ _)]
  apply splitLines_lines
  · intro l hl
    simp only [List.mem_map] at hl
    obtain ⟨k, _, rfl⟩ := hl
    exact asciiGlyphs_no_nl M n b _ k
  · have := length_le_flatMap (List.range ((n + 2 * b + 1) / 2))
      (fun k => asciiPre n b tty (invert || tty) k ++ asciiGlyphs M n b (invert || tty) k ++ asciiPost tty ++ [10])
      (by intro x _; simp only [List.length_append, List.length_singleton]; omega)
    rw [← printAscii_eq] at this
    simp only [List.length_map] at this ⊢
    omega

def aRow (M : Model.Mods) (n b : Nat) (inv : Bool) (R : Nat) : List Bool :=
  (List.range (n + 2 * b)).map (aDark M n b inv R)

/-- the reader's result before dropping the phantom row: the 2 * ceil(height / 2) display rows -/
theorem readHalfBlocks_printAscii_rows (M : Model.Mods) (n b : Nat) (tty invert : Bool) :
    Spec.readHalfBlocks (invert || tty) (Model.printAscii M n b tty invert)
      = some ((List.range (2 * ((n + 2 * b + 1) / 2))).map (aRow M n b (invert || tty))) := by
  unfold Spec.readHalfBlocks
  simp only []
  rw [splitLines_stripSgr_printAscii]
  generalize (invert || tty) = inv
  have hline : ∀ k ∈ List.range ((n + 2 * b + 1) / 2),
      (asciiGlyphs M n b inv k).mapM Spec.glyphInk =
        some ((List.range (n + 2 * b)).map fun j =>
          (aDark M n b inv (2 * k) j != inv, aDark M n b inv (2 * k + 1) j != inv)) := by
    intro k _
    exact mapM_map_option_eq_some _ Spec.glyphInk _ _ (fun j _ => glyphInk_glyph inv _ _)
  rw [mapM_map_option_eq_some (asciiGlyphs M n b inv) (fun line => line.mapM Spec.glyphInk) _ _ hline]
  simp only [Option.map_some, List.flatMap_map, List.map_map]
  -- text line `k` carries the display rows `2 * k` and `2 * k + 1`
  rw [← flatMap_pairs]
  congr 2
  funext k
  simp [aRow, Function.comp_def]

theorem aRow_eq_frameRow (M : Model.Mods) (n b : Nat) (inv : Bool) (R : Nat) (h : R < n + 2 * b) :
    aRow M n b inv R = Frame.frameRow M n b R := by
  unfold aRow Frame.frameRow aDark
  simp [h]

/-- **C15 (ascii)** for an arbitrary matrix read through `getD` -/
theorem readHalfBlocks_printAscii_any (M : Model.Mods) (n border : Nat) (tty invert : Bool) :
    (Spec.readHalfBlocks (invert || tty) (Model.printAscii M n border tty invert)).map (·.take (n + 2 * border))
      = some (Spec.frame M n border) := by
  rw [readHalfBlocks_printAscii_rows, Option.map_some, ← List.map_take, List.take_range,
    Nat.min_eq_left (by omega), Frame.frame_eq_map]
  congr 1
  apply List.map_congr_left
  intro R hR
  exact aRow_eq_frameRow M n border _ R (by simpa using hR)

end QR.Proofs.Text
