import QR.Proofs.StreamSegs
import QR.Proofs.C07Tables
/-
C07 (fitting): `bisectLeft` is Python's `bisect_left` on a sorted list; the stream `best_fit` measures (count widths from the
dict of the class of its start version) has the closed-form length `Spec.streamBits start`, monotone in the version class;
a stream that fits some version fits version 40 (`fits_forty`); `QRCode.best_fit` returns the smallest adequate version
`≥ start`, and raises DataOverflowError exactly when no version in `start..40` is adequate.
-/
namespace QR.Proofs

theorem bisectLeft_spec (a : List Nat) (x : Nat)
    (hs : ∀ i j, i ≤ j → j < a.length → a.getD i 0 ≤ a.getD j 0)
    (fuel lo hi : Nat) (h1 : lo ≤ hi) (h2 : hi ≤ a.length) (h3 : hi - lo ≤ fuel) :
      lo ≤ Model.bisectLeft a x fuel lo hi ∧ Model.bisectLeft a x fuel lo hi ≤ hi ∧
      (∀ i, lo ≤ i → i < Model.bisectLeft a x fuel lo hi → a.getD i 0 < x) ∧
      (∀ i, Model.bisectLeft a x fuel lo hi ≤ i → i < hi → x ≤ a.getD i 0) := by
  fun_induction Model.bisectLeft a x fuel lo hi with
  | case1 lo hi => exact ⟨Nat.le_refl _, h1, fun i _ _ => by omega, fun i _ _ => by omega⟩
  | case2 fuel lo hi hlt mid hc ih =>
    -- `a[mid] < x`: by sortedness so is everything up to `mid`
    obtain ⟨r1, r2, r3, r4⟩ := ih (by omega) h2 (by omega)
    refine ⟨by omega, r2, fun i hi1 hi2 => ?_, r4⟩
    by_cases hle : i ≤ mid
    · exact Nat.lt_of_le_of_lt (hs i _ hle (by omega)) hc
    · exact r3 i (by omega) hi2
  | case3 fuel lo hi hlt mid hc ih =>
    -- `x ≤ a[mid]`: by sortedness so is everything from `mid` on
    obtain ⟨r1, r2, r3, r4⟩ := ih (by omega) (by omega) (by omega)
    refine ⟨r1, by omega, r3, fun i hi1 hi2 => ?_⟩
    by_cases hle : i < mid
    · exact r4 i hi1 hle
    · exact Nat.le_trans (Nat.le_of_not_lt hc) (hs _ i (by omega) (by omega))
  | case4 fuel lo hi hlt => exact ⟨Nat.le_refl _, h1, fun i _ _ => by omega, fun i _ _ => by omega⟩

theorem versionClass_mono {u v : Nat} (h : u ≤ v) : Spec.versionClass u ≤ Spec.versionClass v := by
  unfold Spec.versionClass
  split <;> split <;> (try split) <;> (try split) <;> omega

theorem countWidth_mono {u v : Nat} (h : u ≤ v) (m : Spec.Mode) : Spec.countWidth u m ≤ Spec.countWidth v m := by
  have h1 := versionClass_mono h
  have h2 := versionClass_le_two v
  unfold Spec.countWidth
  generalize Spec.versionClass u = cu at *
  generalize Spec.versionClass v = cv at *
  have hcv : cv = 0 ∨ cv = 1 ∨ cv = 2 := by omega
  have hcu : cu = 0 ∨ cu = 1 ∨ cu = 2 := by omega
  -- the nine pairs of classes: with `cu ≤ cv` the widths are compared mode by mode, `cu > cv` contradicts `h1`
  rcases hcv with rfl | rfl | rfl <;> rcases hcu with rfl | rfl | rfl <;>
    first | (cases m <;> decide) | omega

theorem streamBits_mono {u v : Nat} (h : u ≤ v) (cs : List (Spec.Mode × Nat)) :
    Spec.streamBits u cs ≤ Spec.streamBits v cs := by
  unfold Spec.streamBits
  induction cs with
  | nil => exact Nat.le_refl _
  | cons c t ih =>
    have := countWidth_mono h c.1
    simp only [List.map_cons, List.sum_cons] at ih ⊢
    omega

theorem streamBits_congr {u v : Nat} (h : Spec.versionClass u = Spec.versionClass v) (cs : List (Spec.Mode × Nat)) :
    Spec.streamBits u cs = Spec.streamBits v cs := by
  have : ∀ m, Spec.countWidth u m = Spec.countWidth v m := by
    intro m; unfold Spec.countWidth; rw [h]
  unfold Spec.streamBits
  simp only [this]

/-- the row of `BIT_LIMIT_TABLE` the bisect runs on: 41 entries, entry `v` is the ISO capacity, sorted -/
theorem capacity_row (l : Spec.Level) :
    ∃ row, idx Gen.BIT_LIMIT_TABLE l.indicator = .ok row ∧ row.length = 41 ∧
      (∀ v, 1 ≤ v → v ≤ 40 → row.getD v 0 = Spec.capacityBits v l) ∧
      (∀ i j, i ≤ j → j < row.length → row.getD i 0 ≤ row.getD j 0) := by
  obtain ⟨row, hrow, hlen, h0, hcap⟩ := Props.C07_capacity_table l (Props.mem_allLevels l)
  have hcap' : ∀ v, 1 ≤ v → v ≤ 40 → row.getD v 0 = Spec.capacityBits v l := by
    intro v h1 h40
    have := hcap (v - 1) (by omega)
    rw [show v - 1 + 1 = v by omega] at this
    rw [List.getD_eq_getElem?_getD, this]; rfl
  have h0' : row.getD 0 0 = 0 := by rw [List.getD_eq_getElem?_getD, h0]; rfl
  refine ⟨row, by simp only [idx, hrow], hlen, hcap', fun i j hij hj => ?_⟩
  rw [hlen] at hj
  by_cases hi0 : i = 0
  · rw [hi0, h0']; exact Nat.zero_le _
  · rw [hcap' i (by omega) (by omega), hcap' j (by omega) (by omega)]
    exact Props.capacityBits_mono l (by omega) hij (by omega)

/-- with the dict of the class of `start` the stream is written and its length is `Spec.streamBits start` -/
theorem segsBits_modeSizes (start : Nat) {segs : List Model.Seg} {ps : List Spec.PSeg}
    (hv : ∀ s ∈ segs, s.Valid) (hp : toPSegs segs = some ps) :
    ∃ bits, Model.segsBits (fun m => dictGet (Model.modeSizes start) m) segs = .ok bits ∧
      bits.length = Spec.streamBits start (segCounts ps) := by
  obtain ⟨bits, ps', hbits, hps', _, hlen, _⟩ := segsBits_spec (modeSizes_countWidth start) segs hv
  cases hp.symm.trans hps'
  exact ⟨bits, hbits, hlen⟩

/-- one call of `best_fit` from a start `s` in 1..40, `v` being what the bisect returns -/
theorem bestFit_succ (fuel : Nat) (l : Spec.Level) {segs : List Model.Seg} {ps : List Spec.PSeg}
    (hv : ∀ s ∈ segs, s.Valid) (hp : toPSegs segs = some ps)
    {row : List Nat} (hrow : idx Gen.BIT_LIMIT_TABLE l.indicator = .ok row) (hlen : row.length = 41)
    (s : Nat) (h1 : 1 ≤ s) (h40 : s ≤ 40) {v : Nat}
    (hv' : Model.bisectLeft row (Spec.streamBits s (segCounts ps)) 42 s 41 = v) :
    Model.bestFit (fuel + 1) s l.indicator segs =
      if v = 41 then .error .dataOverflow
      else (Model.checkVersion (v : Int) >>= fun _ =>
        if Spec.versionClass s ≠ Spec.versionClass v then Model.bestFit fuel v l.indicator segs else .ok v) := by
  obtain ⟨bits, hbits, hbl⟩ := segsBits_modeSizes s hv hp
  simp only [Model.bestFit]
  rw [if_neg (by omega), checkVersion_ok_of_le s h1 h40, R.bind_ok, hbits, R.bind_ok, hrow, R.bind_ok, hlen, hbl, hv',
    sizeClass_eq_versionClass, sizeClass_eq_versionClass]
  rfl

theorem fits_true_iff (v : Nat) (l : Spec.Level) (cs : List (Spec.Mode × Nat)) :
    Spec.fits v l cs = true ↔ Spec.streamBits v cs ≤ Spec.capacityBits v l := by
  simp only [Spec.fits, decide_eq_true_eq]

theorem fits_false_iff (v : Nat) (l : Spec.Level) (cs : List (Spec.Mode × Nat)) :
    Spec.fits v l cs = false ↔ Spec.streamBits v cs > Spec.capacityBits v l := by
  simp only [Spec.fits, decide_eq_false_iff_not]; omega

theorem countWidth_bounds (v : Nat) (m : Spec.Mode) : 8 ≤ Spec.countWidth v m ∧ Spec.countWidth v m ≤ 16 := by
  unfold Spec.countWidth
  cases m <;> dsimp only <;> split <;> omega

/-- so the count fields of another version at most double a stream (each segment has at least 12 header bits and gains
    at most 8) -/
theorem streamBits_le_double (u v : Nat) (cs : List (Spec.Mode × Nat)) :
    Spec.streamBits v cs ≤ 2 * Spec.streamBits u cs := by
  unfold Spec.streamBits
  induction cs with
  | nil => exact Nat.le_refl _
  | cons c t ih =>
    have hu := countWidth_bounds u c.1
    have hv := countWidth_bounds v c.1
    simp only [List.map_cons, List.sum_cons] at ih ⊢
    omega

/-- a stream that fits some version 1..40 (with that version's count widths) fits version 40: up to version 26 the
    capacity of 40 is more than twice as large while the wider count fields at most double the stream; from 27 on the
    widths are those of 40 -/
theorem fits_forty (l : Spec.Level) (cs : List (Spec.Mode × Nat)) (u : Nat) (h1 : 1 ≤ u) (h40 : u ≤ 40)
    (h : Spec.fits u l cs = true) : Spec.fits 40 l cs = true := by
  rw [fits_true_iff] at h ⊢
  by_cases h26 : u ≤ 26
  · have := streamBits_le_double u 40 cs
    have := Props.capacityBits_mono l h1 h26 (by decide)
    have : 2 * Spec.capacityBits 26 l ≤ Spec.capacityBits 40 l := by cases l <;> decide
    omega
  · have hcl : Spec.versionClass u = Spec.versionClass 40 := by
      unfold Spec.versionClass
      rw [if_neg (by omega), if_neg (by omega)]
      rfl
    have := Props.capacityBits_mono l h1 h40 (Nat.le_refl _)
    rw [← streamBits_congr hcl cs]
    omega

/-- `v` is the least version `≥ s` that fits -/
def IsMinFit (l : Spec.Level) (cs : List (Spec.Mode × Nat)) (s v : Nat) : Prop :=
  s ≤ v ∧ v ≤ 40 ∧ Spec.fits v l cs = true ∧ ∀ u, s ≤ u → u < v → Spec.fits u l cs = false

/-- no version in `s..40` fits -/
def NoFit (l : Spec.Level) (cs : List (Spec.Mode × Nat)) (s : Nat) : Prop :=
  ∀ u, s ≤ u → u ≤ 40 → Spec.fits u l cs = false

/-- when no version in `s..v-1` fits, fitting from `s` is fitting from `v`: what the re-fit recursion rests on -/
theorem IsMinFit.of_start_le {l : Spec.Level} {cs : List (Spec.Mode × Nat)} {s v w : Nat} (hsv : s ≤ v)
    (hlow : ∀ u, s ≤ u → u < v → Spec.fits u l cs = false) (h : IsMinFit l cs v w) : IsMinFit l cs s w :=
  ⟨Nat.le_trans hsv h.1, h.2.1, h.2.2.1, fun u hu1 hu2 =>
    if hlt : u < v then hlow u hu1 hlt else h.2.2.2 u (Nat.le_of_not_lt hlt) hu2⟩

theorem NoFit.of_start_le {l : Spec.Level} {cs : List (Spec.Mode × Nat)} {s v : Nat}
    (hlow : ∀ u, s ≤ u → u < v → Spec.fits u l cs = false) (h : NoFit l cs v) : NoFit l cs s :=
  fun u hu1 hu2 => if hlt : u < v then hlow u hu1 hlt else h u (Nat.le_of_not_lt hlt) hu2

/-- characterisation of `best_fit` for a normalised start and enough fuel for the remaining class changes -/
theorem bestFit_char_of_fuel (l : Spec.Level) {segs : List Model.Seg} {ps : List Spec.PSeg}
    (hv : ∀ s ∈ segs, s.Valid) (hp : toPSegs segs = some ps) :
    ∀ (fuel s : Nat), 1 ≤ s → s ≤ 40 → 3 ≤ fuel + Spec.versionClass s →
      (∃ v, Model.bestFit fuel s l.indicator segs = .ok v ∧ IsMinFit l (segCounts ps) s v) ∨
      (Model.bestFit fuel s l.indicator segs = .error .dataOverflow ∧ NoFit l (segCounts ps) s) := by
  obtain ⟨row, hrow, hlen, hcap, hsorted⟩ := capacity_row l
  intro fuel
  induction fuel with
  | zero => intro s _ _ hf; have := versionClass_le_two s; omega
  | succ fuel ih =>
    intro s h1 h40 hf
    have hb := bisectLeft_spec row (Spec.streamBits s (segCounts ps)) hsorted 42 s 41 (by omega) (by omega) (by omega)
    generalize hv' : Model.bisectLeft row (Spec.streamBits s (segCounts ps)) 42 s 41 = v at hb
    rw [bestFit_succ fuel l hv hp hrow hlen s h1 h40 hv']
    obtain ⟨b1, b2, b3, b4⟩ := hb
    have hlow : ∀ u, s ≤ u → u < v → Spec.fits u l (segCounts ps) = false := by
      intro u hu1 hu2
      -- measured with the widths of `s` the stream exceeds the capacity of `u`; with the widths of `u` it is no shorter
      have h3 := b3 u hu1 hu2
      rw [hcap u (by omega) (by omega)] at h3
      have h4 := streamBits_mono hu1 (segCounts ps)
      rw [fits_false_iff]
      omega
    by_cases hv41 : v = 41
    · right
      rw [if_pos hv41]
      exact ⟨rfl, fun u hu1 hu2 => hlow u hu1 (by omega)⟩
    · rw [if_neg hv41, checkVersion_ok_of_le v (by omega) (by omega), R.bind_ok]
      by_cases hc : Spec.versionClass s ≠ Spec.versionClass v
      · rw [if_pos hc]
        -- the class went up, so the remaining fuel is enough
        have hmono := versionClass_mono b1
        rcases ih v (by omega) (by omega) (by omega) with ⟨w, hw, hmin⟩ | ⟨he, hno⟩
        · exact Or.inl ⟨w, hw, hmin.of_start_le b1 hlow⟩
        · exact Or.inr ⟨he, hno.of_start_le hlow⟩
      · rw [if_neg hc]
        left
        refine ⟨v, rfl, b1, by omega, ?_, hlow⟩
        -- same class: the stream that was measured is the stream of `v`
        have h4 := b4 v (Nat.le_refl _) (by omega)
        rw [hcap v (by omega) (by omega), streamBits_congr (Decidable.of_not_not hc)] at h4
        exact (fits_true_iff ..).2 h4

/-- `start = 0` (Python's `None`) behaves as `start = 1` -/
theorem bestFit_norm (fuel start level : Nat) (segs : List Model.Seg) :
    Model.bestFit (fuel + 1) start level segs = Model.bestFit (fuel + 1) (max start 1) level segs := by
  by_cases h : start = 0
  · subst h
    simp only [Model.bestFit]
    rfl
  · rw [show max start 1 = start by omega]

theorem bestFit_char (start : Nat) (hs : start ≤ 40) (l : Spec.Level) {segs : List Model.Seg} {ps : List Spec.PSeg}
    (hv : ∀ s ∈ segs, s.Valid) (hp : toPSegs segs = some ps) :
    (∃ v, Model.bestFit 4 start l.indicator segs = .ok v ∧ IsMinFit l (segCounts ps) (max start 1) v) ∨
    (Model.bestFit 4 start l.indicator segs = .error .dataOverflow ∧ NoFit l (segCounts ps) (max start 1)) := by
  rw [bestFit_norm 3 start]
  exact bestFit_char_of_fuel l hv hp 4 (max start 1) (by omega) (by omega) (by omega)

theorem minVersion_eq_some (start : Nat) (l : Spec.Level) (cs : List (Spec.Mode × Nat)) (v : Nat)
    (h : IsMinFit l cs (max start 1) v) : Spec.minVersion start l cs = some v := by
  obtain ⟨m1, m2, m3, m4⟩ := h
  unfold Spec.minVersion
  rw [List.find?_filter, List.find?_range_eq_some]
  refine ⟨?_, List.mem_range.mpr (by omega), ?_⟩
  · simp only [decide_eq_true_eq, m3, and_true]; exact m1
  · intro u hu
    by_cases hsu : max start 1 ≤ u
    · simp [m4 u hsu hu]
    · simp [hsu]

theorem minVersion_eq_none (start : Nat) (l : Spec.Level) (cs : List (Spec.Mode × Nat))
    (h : NoFit l cs (max start 1)) : Spec.minVersion start l cs = none := by
  unfold Spec.minVersion
  rw [List.find?_filter, List.find?_eq_none]
  intro u hu
  have hu' := List.mem_range.mp hu
  by_cases hsu : max start 1 ≤ u
  · simp [h u hsu (by omega)]
  · simp [hsu]

theorem minVersion_ge (start : Nat) (l : Spec.Level) (cs : List (Spec.Mode × Nat)) (v : Nat)
    (h : Spec.minVersion start l cs = some v) : start ≤ v := by
  unfold Spec.minVersion at h
  have := List.mem_of_find?_eq_some h
  simp only [List.mem_filter, decide_eq_true_eq] at this
  omega

end QR.Proofs
