import QR.Proofs.Placement
import QR.Proofs.NFCount
import QR.Proofs.StreamBits
import QR.Spec.Reader
/-
C05, data placement against the Spec reader: `Model.mapData` on a matrix whose `None` cells are exactly the
non-function modules, read back by `Spec.readRaw`, gives the codeword bit stream cut or zero-padded to `rawModules v` bits;
for a full codeword sequence that is the stream followed by the zero remainder bits (`readRaw_codewords`).
-/
namespace QR.GeoC
open QR.Model

theorem maskFunc_eq_maskCond (p i j : Nat) (hp : p < 8) : maskFunc p i j = Spec.maskCond p i j := by
  match p, hp with
  | 0, _ | 1, _ | 2, _ | 3, _ | 4, _ | 5, _ | 6, _ => rfl
  | 7, _ => show decide (_ = 0) = (_ == 0); rw [Nat.add_comm]; rfl

theorem trav_nodup_inside (v : Nat) : (trav (Spec.size v)).Nodup ∧
    ∀ p ∈ trav (Spec.size v), p.1 < Spec.size v ∧ p.2 < Spec.size v := by
  have hodd : Spec.size v % 2 = 1 := by unfold Spec.size; omega
  have h7 : 7 ≤ Spec.size v := by unfold Spec.size; omega
  refine ⟨trav_nodup _ hodd, fun p hp => ?_⟩
  have h := (mem_trav_iff _ hodd h7 p.1 p.2).mp hp
  exact ⟨h.1, h.2.1⟩

/-- the hypothesis on the matrix handed to `map_data` (supplied by `Sym.makeImpl_mapData`): a cell is still `None` iff it is
    not a function module -/
def NoneIffData (v : Nat) (m : Mat) : Prop :=
  ∀ r c, r < Spec.size v → c < Spec.size v → (m.get r c = none ↔ Spec.isFunction v r c = false)

/-- the symbol `S` shows the matrix `m` (`None` would be rendered light, but there is none left) -/
def Shows (S : Spec.Sym) (n : Nat) (m : Mat) : Prop :=
  S.n = n ∧ ∀ r c, r < n → c < n → S.get r c = (m.get r c).getD false

/-- **placement vs reader**, any version ≥ 1: the reader's raw bit sequence is the codeword bit stream cut /
    zero-padded to the number of non-function cells met by the zig-zag -/
theorem readRaw_mapData_general (v mask : Nat) (hmask : mask < 8) (m : Mat)
    (hs : MatShape m (Spec.size v)) (hm : NoneIffData v m) (data : List Nat) (S : Spec.Sym)
    (hS : Shows S (Spec.size v) (mapData (Spec.size v) m data mask)) :
    Spec.readRaw S v mask =
      padTake ((Spec.zigzag (Spec.size v)).countP fun p => !Spec.isFunction v p.1 p.2) (codewordBits data) := by
  obtain ⟨hSn, hSg⟩ := hS
  obtain ⟨hnd, hin'⟩ := trav_nodup_inside v
  unfold Spec.readRaw
  rw [hSn, pairLam_eq, ← trav_eq_zigzag_size]
  rw [← read_place mask (fun r c => !Spec.isFunction v r c) (trav (Spec.size v)) hnd hs hin' (codewordBits data)]
  · apply List.map_congr_left
    intro ⟨r, c⟩ hp
    have hb := hin' _ (List.mem_filter.mp hp).1
    show xor (S.get r c) (Spec.maskCond mask r c) = _
    rw [hSg r c hb.1 hb.2, ← maskFunc_eq_maskCond mask r c hmask, mapData_eq_place]
  · intro p hp
    have hb := hin' p hp
    rw [hm p.1 p.2 hb.1 hb.2]
    simp

/-- **placement vs reader**, versions 1..40: `readRaw` returns exactly `rawModules v` bits -/
theorem readRaw_mapData (v mask : Nat) (h1 : 1 ≤ v) (h40 : v ≤ 40) (hmask : mask < 8) (m : Mat)
    (hs : MatShape m (Spec.size v)) (hm : NoneIffData v m) (data : List Nat) (S : Spec.Sym)
    (hS : Shows S (Spec.size v) (mapData (Spec.size v) m data mask)) :
    Spec.readRaw S v mask = padTake (Spec.rawModules v) (codewordBits data) := by
  rw [readRaw_mapData_general v mask hmask m hs hm data S hS, zigzag_countP, nonFunction_count v h1 h40]

theorem mapData_shape (n mask : Nat) (m : Mat) (hs : MatShape m n) (data : List Nat) :
    MatShape (mapData n m data mask) n := place_shape mask _ hs _

theorem mapData_keeps {n mask : Nat} {m : Mat} (hs : MatShape m n) {data : List Nat} {r c : Nat} {b : Bool}
    (h : m.get r c = some b) : (mapData n m data mask).get r c = some b := by
  rw [mapData_eq_place, place_get_unchanged mask _ hs _ r c (Or.inl (by rw [h]; rfl)), h]

theorem mapData_function_unchanged (v mask : Nat) (m : Mat) (hs : MatShape m (Spec.size v)) (hm : NoneIffData v m)
    (data : List Nat) (r c : Nat) (hr : r < Spec.size v) (hc : c < Spec.size v) (hf : Spec.isFunction v r c = true) :
    (mapData (Spec.size v) m data mask).get r c = m.get r c := by
  cases h : m.get r c with
  | some b => exact mapData_keeps hs h
  | none => rw [(hm r c hr hc).mp h] at hf; cases hf

theorem mapData_all_some (v mask : Nat) (m : Mat) (hs : MatShape m (Spec.size v)) (hm : NoneIffData v m)
    (data : List Nat) (r c : Nat) (hr : r < Spec.size v) (hc : c < Spec.size v) :
    ((mapData (Spec.size v) m data mask).get r c).isSome = true := by
  cases h : m.get r c with
  | some b => rw [mapData_keeps hs h]; rfl
  | none =>
    -- a `None` cell is not a function module, so the traversal meets it
    have hmem : (r, c) ∈ trav (Spec.size v) :=
      trav_eq_zigzag_size v ▸ mem_zigzag_of_not_isFunction hr hc ((hm r c hr hc).mp h)
    obtain ⟨i, hi, e⟩ := List.getElem_of_mem hmem
    have := place_nth mask _ (trav_nodup_inside v).1 hs (trav_nodup_inside v).2 (codewordBits data) i hi (by rw [e]; exact h)
    rw [e] at this
    rw [mapData_eq_place, this]; rfl

/-- the data cells hold the stream bits in zig-zag order: the k-th non-function cell of the zig-zag carries bit k of
    the codeword stream (zero past its end) xor the mask condition -/
theorem mapData_nth (v mask : Nat) (hmask : mask < 8) (m : Mat) (hs : MatShape m (Spec.size v)) (hm : NoneIffData v m)
    (data : List Nat) (i : Nat) (hi : i < (Spec.zigzag (Spec.size v)).length)
    (hf : Spec.isFunction v (Spec.zigzag (Spec.size v))[i].1 (Spec.zigzag (Spec.size v))[i].2 = false) :
    (mapData (Spec.size v) m data mask).get (Spec.zigzag (Spec.size v))[i].1 (Spec.zigzag (Spec.size v))[i].2 =
      some (xor ((codewordBits data).getD
                  (((Spec.zigzag (Spec.size v)).take i).countP fun p => !Spec.isFunction v p.1 p.2) false)
                (Spec.maskCond mask (Spec.zigzag (Spec.size v))[i].1 (Spec.zigzag (Spec.size v))[i].2)) := by
  obtain ⟨hnd, hin'⟩ := trav_nodup_inside v
  revert hi hf
  rw [← trav_eq_zigzag_size]
  intro hi hf
  have hb := hin' _ (List.getElem_mem hi)
  have hnone := (hm _ _ hb.1 hb.2).mpr hf
  rw [mapData_eq_place, place_nth mask _ hnd hs hin' _ i hi hnone,
    maskFunc_eq_maskCond mask _ _ hmask]
  congr 3
  apply List.countP_congr
  intro p hp
  have hb' := hin' p (List.mem_of_mem_take hp)
  have := hm p.1 p.2 hb'.1 hb'.2
  cases hg : m.get p.1 p.2 <;> cases hq : Spec.isFunction v p.1 p.2 <;> simp_all

theorem bytesOfBits_codewordBits (data : List Nat) (hb : ∀ b ∈ data, b < 256) (rest : List Bool) :
    Spec.bytesOfBits data.length (codewordBits data ++ rest) = data := by
  unfold Spec.bytesOfBits
  induction data with
  | nil => rfl
  | cons b data ih =>
    have hb0 : b < 2 ^ 8 := hb b (List.mem_cons_self ..)
    have e : codewordBits (b :: data) ++ rest = bitsBE b 8 ++ (codewordBits data ++ rest) := by
      simp only [codewordBits, List.flatMap_cons, List.append_assoc]
    rw [e, List.length_cons, Spec.bytesOfBitsAux, take_bitsBE_append, drop_bitsBE_append, bitsVal_bitsBE hb0,
      ih fun x hx => hb x (List.mem_cons_of_mem _ hx)]

theorem rawModules_eq (v : Nat) : Spec.rawModules v = 8 * Spec.totalCodewords v + Spec.remainderBits v := by
  unfold Spec.totalCodewords Spec.remainderBits
  omega

/-- a full codeword sequence fills the data modules up to the remainder bits -/
theorem padTake_codewordBits {v : Nat} {data : List Nat} (hlen : data.length = Spec.totalCodewords v) :
    padTake (Spec.rawModules v) (codewordBits data) =
      codewordBits data ++ List.replicate (Spec.remainderBits v) false := by
  rw [rawModules_eq, ← hlen, ← codewordBits_length, padTake_append]

/-- **C05 placement, reader form** (versions 1..40, all eight masks): for a full codeword sequence
    (`totalCodewords v` bytes), the reader's raw sequence has `rawModules v` bits, cutting it into codewords returns
    `data`, and the `remainderBits v` bits after them are all zero -/
theorem readRaw_codewords (v mask : Nat) (h1 : 1 ≤ v) (h40 : v ≤ 40) (hmask : mask < 8) (m : Mat)
    (hs : MatShape m (Spec.size v)) (hm : NoneIffData v m) (data : List Nat)
    (hlen : data.length = Spec.totalCodewords v) (hbytes : ∀ b ∈ data, b < 256) (S : Spec.Sym)
    (hS : Shows S (Spec.size v) (mapData (Spec.size v) m data mask)) :
    (Spec.readRaw S v mask).length = Spec.rawModules v ∧
    Spec.bytesOfBits (Spec.totalCodewords v) (Spec.readRaw S v mask) = data ∧
    (Spec.readRaw S v mask).drop (8 * Spec.totalCodewords v) = List.replicate (Spec.remainderBits v) false := by
  have hR : Spec.readRaw S v mask = codewordBits data ++ List.replicate (Spec.remainderBits v) false := by
    rw [readRaw_mapData v mask h1 h40 hmask m hs hm data S hS, padTake_codewordBits hlen]
  refine ⟨?_, ?_, ?_⟩
  · rw [readRaw_mapData v mask h1 h40 hmask m hs hm data S hS, padTake_length]
  · rw [hR, ← hlen, bytesOfBits_codewordBits data hbytes]
  · rw [hR, ← hlen, ← codewordBits_length, List.drop_left]

end QR.GeoC
