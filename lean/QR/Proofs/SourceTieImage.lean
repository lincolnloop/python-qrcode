import QR.Gen.Code
import QR.Model.Render
/-
Translation validation for the tail of `QRCode.make_image` (drawing loop, `process()`), which C12 and C13 share, translated
statement by statement from the Python AST (`rd_make_image_draw` in QR/Gen/Code.lean, plugin `frag_d4.py`): the class flags
`make_image` reads, the closed form of the loop, and the list `pilCalls` of `self._idr.rectangle(box, fill=self.fill_color)`
calls the Model's raster expects (tied in Props/C12).  Also a closed form of `BaseImage.check_kind`, for which the Model has
no function; the translated code is proved equal to it, for all arguments, in Props/C12.
-/
namespace QR.SourceTieD4
open QR.Model QR.Gen.Code

/-- (needs_drawrect, needs_context, needs_processing) of an image class, from the table generated from the class bodies -/
def flagsOf (cls : String) : Bool × Bool × Bool := (rd_class_flags.lookup cls).getD (false, false, false)

/-- the tail of `make_image` run for an image of class `cls` -/
def makeImageDraw {S : Type} (cls : String) (modules_count : Nat) (modules : List (List Bool))
    (drawrect_context drawrect : Nat → Nat → S → S) (process : S → S) (im : S) : S :=
  rd_make_image_draw (flagsOf cls).1 (flagsOf cls).2.1 (flagsOf cls).2.2 modules_count modules drawrect_context drawrect process im

theorem flags_pil : flagsOf "PilImage" = (true, false, false) := rfl
theorem flags_pypng : flagsOf "PyPNGImage" = (false, false, false) := rfl
theorem flags_styled : flagsOf "StyledPilImage" = (true, true, true) := rfl

/-- the translated tail of `make_image` in closed form: a row-major double loop over `range(modules_count)²`; with
    `needs_context` every cell goes to `drawrect_context`, otherwise the dark cells go to `drawrect`; then `process()` -/
theorem makeImageDraw_src {S : Type} (nd nc np : Bool) (n : Nat) (M : Mods) (ctx dr : Nat → Nat → S → S) (process : S → S)
    (im : S) :
    rd_make_image_draw nd nc np n M ctx dr process im =
      let cell : Nat → Nat → S → S := fun r c im =>
        if nc then ctx r c im else if (M.getD r []).getD c false then dr r c im else im
      let im := if nd then (List.range n).foldl (fun im r => (List.range n).foldl (fun im c => cell r c im) im) im else im
      if np then process im else im := by
  unfold rd_make_image_draw
  cases nd <;> cases np <;> rfl

/-- the `rectangle(box, fill)` calls the Model expects: the pixel boxes of the dark cells, row-major, all with the fill colour -/
def pilCalls {Fill : Type} (fill : Fill) (M : Mods) (width border boxSize : Nat) : List (((Nat × Nat) × (Nat × Nat)) × Fill) :=
  (List.range width).flatMap fun r => (List.range width).filterMap fun c =>
    if (M.getD r []).getD c false then some (pixelBox border boxSize r c, fill) else none

/-- `kind in self.allowed_kinds` -/
def kindAllowed (kind : Option String) (allowed : Option (List String)) : Bool :=
  match kind with
  | some k => (allowed.getD []).contains k
  | none => false

/-- closed form of `check_kind(kind, transform)`: the default kind is the class's; a class without `allowed_kinds` accepts
    anything; otherwise the kind must be listed either before or after the transform; the transformed kind is returned -/
def checkKind (selfKind : Option String) (allowed : Option (List String)) (kind : Option String)
    (transform : Option (Option String → Option String)) : Except String (Option String) :=
  let k0 := if kind.isNone then selfKind else kind
  let ok0 := (allowed.getD []).isEmpty || kindAllowed k0 allowed
  match transform with
  | none => if ok0 then .ok k0 else .error "ValueError"
  | some t => if ok0 || kindAllowed (t k0) allowed then .ok (t k0) else .error "ValueError"

/-- the table in which `BaseImageWithDrawer.get_drawer` looks up a string alias (closed form: `C13_source_getDrawer_src`) -/
theorem getDrawer_literals : rd_get_drawer_table = "self.drawer_aliases" := rfl

end QR.SourceTieD4
