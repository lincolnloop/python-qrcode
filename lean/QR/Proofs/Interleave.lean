import QR.Model.Data
import QR.Spec.Reader
import QR.Spec.Tables
import QR.Proofs.Except
/-
Interleaving (`util.create_bytes`, second half) against the Spec de-interleaver, both read column by column (`colOf`);
block splitting (first half) as consecutive `slices` of the buffer; the reader's `Spec.blocksOf` on two interleaved sequences.
-/
namespace QR.Interleave

/-- column `i` of a list of blocks: the `i`-th byte of every block that is long enough -/
def colOf (blocks : List (List Nat)) (i : Nat) : List Nat := blocks.filterMap fun b => b[i]?

theorem colOf_nil (i : Nat) : colOf [] i = [] := rfl

theorem colOf_cons (b : List Nat) (bs : List (List Nat)) (i : Nat) :
    colOf (b :: bs) i = (if h : i < b.length then b[i] :: colOf bs i else colOf bs i) := by
  unfold colOf; split <;> simp [*]

theorem colOf_append (xs ys : List (List Nat)) (i : Nat) : colOf (xs ++ ys) i = colOf xs i ++ colOf ys i := by
  simp [colOf, List.filterMap_append]

/-- the `present` flags of `deinterleaveAux` count the column length -/
theorem count_present (blocks : List (List Nat)) (i : Nat) :
    (((blocks.map List.length).map fun len => decide (i < len)).count true) = (colOf blocks i).length := by
  rw [colOf, List.length_filterMap_eq_countP, List.count_eq_countP, List.countP_map, List.countP_map]
  congr 1; funext b
  by_cases h : i < b.length <;> simp [h]

theorem interleave_eq (blocks : List (List Nat)) :
    Model.interleave blocks =
      (List.range' 0 ((blocks.map List.length).foldl max 0)).flatMap (colOf blocks) := by
  unfold Model.interleave
  simp only [List.foldl_map, List.range_eq_range']
  rfl

/-- the element picked by `deinterleaveAux` for block `b` in column `i` -/
theorem col_pick (blocks : List (List Nat)) (i b : Nat) (rest : List Nat) (hb : b < blocks.length)
    (hi : i < blocks[b].length) :
    (colOf blocks i ++ rest)[((((blocks.map List.length).map fun len => decide (i < len)).take b).count true)]? =
      some blocks[b][i] := by
  have h1 : (((blocks.map List.length).map fun len => decide (i < len)).take b) =
      (((blocks.take b).map List.length).map fun len => decide (i < len)) := by
    simp [List.map_take]
  -- the index is the length of column `i` of the blocks before `b`
  rw [h1, count_present]
  have h2 : blocks = blocks.take b ++ (blocks[b] :: blocks.drop (b + 1)) := by
    simp
  have h3 : colOf blocks i = colOf (blocks.take b) i ++ (blocks[b][i] :: colOf (blocks.drop (b + 1)) i) := by
    conv => lhs; rw [h2]
    rw [colOf_append, colOf_cons]
    simp [hi]
  rw [h3, List.append_assoc, List.getElem?_append_right (Nat.le_refl _)]
  simp

theorem deinterleaveAux_col (blocks : List (List Nat)) (k i : Nat) (rest : List Nat) :
    Spec.deinterleaveAux (blocks.map List.length) k i ((List.range' i k).flatMap (colOf blocks) ++ rest) =
      (List.range' i k).map fun j => blocks.map fun b => b[j]? := by
  induction k generalizing i with
  | zero => simp [Spec.deinterleaveAux]
  | succ k ih =>
    simp only [Spec.deinterleaveAux, List.range'_succ, List.flatMap_cons, List.map_cons, List.append_assoc]
    -- `cnt` is the length of column `i`, so the recursion goes on right behind it; the column is compared block by block
    rw [count_present, List.drop_left, ih]
    congr 1
    apply List.ext_getElem?
    intro b
    simp only [List.getElem?_map, List.getElem?_zipIdx, Nat.zero_add]
    by_cases hb : b < blocks.length
    · simp only [List.getElem?_eq_getElem hb, Option.map_some, Option.some.injEq]
      by_cases hi : i < blocks[b].length
      · rw [if_pos (by simpa using hi)]
        rw [col_pick blocks i b ((List.range' (i + 1) k).flatMap (colOf blocks) ++ rest) hb hi]
        simp [hi]
      · rw [if_neg (by simpa using hi)]
        have : blocks[b][i]? = none := by simp; omega
        rw [this]
    · simp [List.getElem?_eq_none (Nat.le_of_not_lt hb)]

theorem le_foldl_max (l : List Nat) (a : Nat) : a ≤ l.foldl max a ∧ ∀ x ∈ l, x ≤ l.foldl max a := by
  induction l generalizing a with
  | nil => simp
  | cons y ys ih =>
    simp only [List.foldl_cons, List.mem_cons, forall_eq_or_imp]
    have := ih (max a y)
    refine ⟨by omega, by omega, this.2⟩

theorem filterMap_getElem?_range' (l : List Nat) (m : Nat) (h : l.length ≤ m) :
    (List.range' 0 m).filterMap (fun j => l[j]?) = l := by
  induction l generalizing m with
  | nil => simp
  | cons a t ih =>
    cases m with
    | zero => simp at h
    | succ m =>
      simp only [List.length_cons, Nat.add_le_add_iff_right] at h
      -- index 0 yields `a`; the indices `1 .. m` are `0 .. m - 1` shifted, and read `t`
      rw [List.range'_succ, List.filterMap_cons]
      simp only [List.getElem?_cons_zero]
      rw [List.range'_succ_left, List.filterMap_map]
      simp only [Function.comp_def, List.getElem?_cons_succ]
      rw [ih m h]

theorem deinterleave_interleave (blocks : List (List Nat)) :
    Spec.deinterleave (blocks.map List.length) (Model.interleave blocks) = blocks := by
  simp only [Spec.deinterleave]
  rw [interleave_eq]
  have := deinterleaveAux_col blocks ((blocks.map List.length).foldl max 0) 0 []
  rw [List.append_nil] at this
  rw [this]
  apply List.ext_getElem?
  intro b
  simp only [List.getElem?_map, List.length_map]
  by_cases hb : b < blocks.length
  · rw [List.getElem?_range hb, List.getElem?_eq_getElem hb]
    simp only [Option.map_some, Option.some.injEq, List.filterMap_map, Function.comp_def]
    have hm : blocks[b].length ≤ (blocks.map List.length).foldl max 0 :=
      (le_foldl_max (blocks.map List.length) 0).2 _ (List.mem_map.mpr ⟨blocks[b], List.getElem_mem hb, rfl⟩)
    have := filterMap_getElem?_range' blocks[b] _ hm
    conv => rhs; rw [← this]
    congr 1
    funext j
    simp [List.getD_eq_getElem?_getD, hb]
  · rw [List.getElem?_eq_none (Nat.le_of_not_lt hb), List.getElem?_eq_none (by simpa using Nat.le_of_not_lt hb)]
    rfl

theorem colOf_length_add (blocks : List (List Nat)) (M : Nat) :
    (colOf blocks M).length + (blocks.map fun b => min b.length M).sum =
      (blocks.map fun b => min b.length (M + 1)).sum := by
  induction blocks with
  | nil => rfl
  | cons b bs ih =>
    rw [colOf_cons]
    simp only [List.map_cons, List.sum_cons]
    by_cases h : M < b.length
    · simp only [h, dite_true, List.length_cons]; omega
    · simp only [h, dite_false]; omega

theorem flatMap_colOf_length (blocks : List (List Nat)) (M : Nat) :
    ((List.range' 0 M).flatMap (colOf blocks)).length = (blocks.map fun b => min b.length M).sum := by
  induction M with
  | zero =>
    simp only [Nat.min_zero, List.map_const', List.sum_replicate_nat, Nat.mul_zero]
    rfl
  | succ M ih =>
    rw [List.range'_concat, List.flatMap_append, List.length_append, ih, ← colOf_length_add]
    simp only [Nat.zero_add, Nat.one_mul, List.flatMap_cons, List.flatMap_nil, List.append_nil]
    omega

theorem interleave_length (blocks : List (List Nat)) :
    (Model.interleave blocks).length = (blocks.map List.length).sum := by
  rw [interleave_eq, flatMap_colOf_length]
  congr 1
  apply List.map_congr_left
  intro b hb
  have := (le_foldl_max (blocks.map List.length) 0).2 _ (List.mem_map.mpr ⟨b, hb, rfl⟩)
  omega

theorem mem_interleave {blocks : List (List Nat)} {x : Nat} (h : x ∈ Model.interleave blocks) :
    ∃ b ∈ blocks, x ∈ b := by
  unfold Model.interleave at h
  simp only [List.mem_flatMap, List.mem_filterMap] at h
  obtain ⟨i, _, b, hb, hx⟩ := h
  exact ⟨b, hb, List.mem_of_getElem? hx⟩

/-- consecutive slices of `buf` of the given lengths -/
def slices : List Nat → List Nat → List (List Nat)
  | _, [] => []
  | buf, n :: ns => buf.take n :: slices (buf.drop n) ns

theorem slices_length (buf lens : List Nat) : (slices buf lens).length = lens.length := by
  induction lens generalizing buf with
  | nil => rfl
  | cons n ns ih => simp [slices, ih]

theorem slices_map_length (buf lens : List Nat) (h : lens.sum ≤ buf.length) :
    (slices buf lens).map List.length = lens := by
  induction lens generalizing buf with
  | nil => rfl
  | cons n ns ih =>
    simp only [List.sum_cons] at h
    simp only [slices, List.map_cons, List.length_take]
    rw [ih _ (by rw [List.length_drop]; omega)]
    congr 1; omega

theorem slices_flatten (buf lens : List Nat) (h : lens.sum = buf.length) : (slices buf lens).flatten = buf := by
  induction lens generalizing buf with
  | nil => exact (List.eq_nil_of_length_eq_zero h.symm).symm
  | cons n ns ih =>
    simp only [List.sum_cons] at h
    simp only [slices, List.flatten_cons]
    rw [ih _ (by rw [List.length_drop]; omega), List.take_append_drop]

theorem map_mod_256 {l : List Nat} (h : ∀ x ∈ l, x < 256) : l.map (· % 256) = l :=
  (List.map_congr_left fun x hx => Nat.mod_eq_of_lt (h x hx)).trans (List.map_id' l)

/-- **first loop of `create_bytes`**: the buffer is cut into consecutive slices of the blocks' data lengths and each
    slice is paired with its EC codewords; whatever `P` the per-block computation guarantees holds of every pair.
    (`data ≤ total` is not needed.) -/
theorem splitBlocks_spec (buf : List Nat) (blocks : List (Nat × Nat)) (P : List Nat → List Nat → Prop)
    (hlen : buf.length = (blocks.map (·.2)).sum) (hbytes : ∀ x ∈ buf, x < 256)
    (hec : ∀ b ∈ blocks, ∀ dc : List Nat, dc.length = b.2 → (∀ x ∈ dc, x < 256) →
      ∃ ec, Model.ecOfBlock dc (b.1 - b.2) = .ok ec ∧ P dc ec) :
    ∃ bs, Model.splitBlocks buf blocks = .ok bs ∧
      bs.map (·.1) = slices buf (blocks.map (·.2)) ∧ ∀ p ∈ bs, P p.1 p.2 := by
  induction blocks generalizing buf with
  | nil => exact ⟨[], rfl, rfl, by simp⟩
  | cons b rest ih =>
    obtain ⟨total, dcCount⟩ := b
    simp only [List.map_cons, List.sum_cons] at hlen
    have htake : ∀ x ∈ buf.take dcCount, x < 256 := fun x hx => hbytes x (List.mem_of_mem_take hx)
    obtain ⟨ec, hec1, hP⟩ := hec (total, dcCount) List.mem_cons_self (buf.take dcCount)
      (by rw [List.length_take]; omega) htake
    obtain ⟨tl, htl1, htl2, htl3⟩ := ih (buf.drop dcCount) (by rw [List.length_drop]; omega)
      (fun x hx => hbytes x (List.mem_of_mem_drop hx)) (fun b hb => hec b (List.mem_cons_of_mem _ hb))
    refine ⟨(buf.take dcCount, ec) :: tl, ?_, ?_, List.forall_mem_cons.mpr ⟨hP, htl3⟩⟩
    · simp only [Model.splitBlocks, map_mod_256 htake]
      rw [if_neg (by omega)]
      simp only [hec1, htl1, R.bind_ok, R.pure_eq]
    · simp only [List.map_cons, slices, htl2]

/-- the Spec view of the model's (data, ec) pairs -/
def toBlock (p : List Nat × List Nat) : Spec.Block := { data := p.1, ec := p.2 }

/-- the reader's `blocksOf` undoes the two interleavings of `create_bytes`, for any (data, ec) pairs whose lengths
    are those of the block table -/
theorem blocksOf_interleave (v : Nat) (l : Spec.Level) (bs : List (List Nat × List Nat))
    (hd : bs.map (fun p => p.1.length) = (Spec.isoBlocks v l).map (·.2))
    (he : bs.map (fun p => p.2.length) = (Spec.isoBlocks v l).map fun b => b.1 - b.2) :
    Spec.blocksOf v l (Model.interleave (bs.map (·.1)) ++ Model.interleave (bs.map (·.2))) = bs.map toBlock := by
  have hd' : (bs.map (·.1)).map List.length = _ := List.map_map.trans hd
  have he' : (bs.map (·.2)).map List.length = _ := List.map_map.trans he
  have hnd : (Model.interleave (bs.map (·.1))).length = ((Spec.isoBlocks v l).map (·.2)).sum := by
    rw [interleave_length, hd']
  simp only [Spec.blocksOf]
  rw [List.take_left' hnd, List.drop_left' hnd, ← hd', ← he', deinterleave_interleave, deinterleave_interleave,
    List.zip_map', List.map_map]
  rfl

theorem ecOfBlock_length {dc : List Nat} {ecCount : Nat} {ec : List Nat} (h : Model.ecOfBlock dc ecCount = .ok ec) :
    ec.length = ecCount := by
  unfold Model.ecOfBlock at h
  obtain ⟨_, _, h⟩ := R.bind_eq_ok.1 h
  obtain ⟨_, _, h⟩ := R.bind_eq_ok.1 h
  obtain ⟨_, _, h⟩ := R.bind_eq_ok.1 h
  have := Except.ok.inj h
  rw [← this]
  simp

/-- the block lengths in whatever `splitBlocks` returns when it succeeds, with no hypothesis on the input
    (`splitBlocks_spec` asks for bytes and a buffer of the right length) -/
theorem splitBlocks_lengths {buf : List Nat} {blocks : List (Nat × Nat)} {bs : List (List Nat × List Nat)}
    (h : Model.splitBlocks buf blocks = .ok bs) :
    bs.map (fun b => b.1.length) = blocks.map (fun b => b.2) ∧
    bs.map (fun b => b.2.length) = blocks.map (fun b => b.1 - b.2) := by
  induction blocks generalizing buf bs with
  | nil =>
    unfold Model.splitBlocks at h
    cases Except.ok.inj h
    exact ⟨rfl, rfl⟩
  | cons b rest ih =>
    obtain ⟨total, data⟩ := b
    unfold Model.splitBlocks at h
    by_cases hlt : buf.length < data
    · simp [hlt] at h
    · simp only [hlt, if_false] at h
      obtain ⟨ec, hec, h⟩ := R.bind_eq_ok.1 h
      obtain ⟨tl, htl, h⟩ := R.bind_eq_ok.1 h
      cases Except.ok.inj h
      have hl := ecOfBlock_length hec
      refine ⟨?_, ?_⟩
      · simp only [List.map_cons, (ih htl).1, List.length_map, List.length_take]
        congr 1
        omega
      · simp only [List.map_cons, (ih htl).2, hl]

end QR.Interleave
