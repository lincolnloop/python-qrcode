import QR.Gen.Code
import QR.Model.Segment
import QR.Proofs.SegShape
/-
Translation validation for segmentation (C10): the regex engine of the Model as a value (`searchModel`, `matchModel`), the
interpreter record `pyModel`, and the bridges for `to_bytestring`, `optimal_mode`, `QRData.__init__`, `_optimal_split`
(both pattern families), `optimal_data_chunks` (pattern choice, nested generator loops, the `QRData(...)` calls) and
`QRCode.add_data`, as translated by tools/t2_fragments/frag_d1.py into `QR.Gen.Code.sg_*`; at the end the Spec's view of the
translated `QRData` objects, which the capstones of C10 are stated with.
-/
namespace QR.SourceTieD1
open QR.Model QR.Gen.Code

/-! ### the Model's reading of `re` (the ASSUMPTION stated in the header of Model/Segment.lean), as an engine -/

/-- the byte predicate of a character class: `\d` = ASCII digits, `[re.escape(bs)]` = membership in `bs` -/
def clsPred : sg_Cls → Nat → Bool
  | .digits => isDigit
  | .set bs => fun c => bs.contains c

/-- `re.search(pattern, data)` as the Model reads it: `(m.start(), m.end())`.
    `C{n,}`: first maximal run of length ≥ n (`findRun`); `^C+$`: the whole string is a non-empty run, optionally followed by
    one final "\n"; `^C*\Z`: the whole string is in the class.  (For `n = 0` this is NOT what `re` does - `C{0,}` matches the
    empty string at 0 - the Model is for `minimum ≥ 1`, and `add_data` never passes 0.) -/
def searchModel : sg_Pat → List Nat → Option (Nat × Nat)
  | .atLeast c n, data =>
    match findRun (clsPred c) n (data.length + 1) data with
    | none => none
    | some (pre, run, _) => some (pre.length, pre.length + run.length)
  | .anchoredPlus c, data =>
    if !(data.takeWhile (clsPred c)).isEmpty && ((data.dropWhile (clsPred c)).isEmpty || data.dropWhile (clsPred c) == [10])
    then some (0, (data.takeWhile (clsPred c)).length) else none
  | .anchoredStarZ c, data => if data.all (clsPred c) then some (0, data.length) else none

/-- `pattern.match(data)`: a `search` result that starts at 0 -/
def matchModel (p : sg_Pat) (data : List Nat) : Option (Nat × Nat) :=
  match searchModel p data with
  | some (0, e) => some (0, e)
  | _ => none

/-- the interpreter record the Model corresponds to: its two exceptions, its regex engine, arguments that ARE byte strings
    (`isinstance(data, bytes)`), `fuel d` iterations granted to `while data:` started on `d`; `enc` is never called -/
def pyModel (fuel : List Nat → Nat) (enc : List Nat → List Nat) : sg_Py Err :=
  { TypeError := .typeError, ValueError := .valueError, re_search := searchModel, re_match := matchModel,
    isinstance_bytes := fun _ => true, str_encode := enc, fuel := fuel }

/-- a Model segment as a translated `QRData` object -/
def segQ (s : Seg) : sg_QRData := { mode := s.mode, data := s.data }

theorem consts_src : sg_MODE_NUMBER = Gen.MODE_NUMBER ∧ sg_MODE_ALPHA_NUM = Gen.MODE_ALPHA_NUM ∧
    sg_MODE_8BIT_BYTE = Gen.MODE_8BIT_BYTE ∧ sg_ALPHA_NUM = Gen.ALPHA_NUM ∧
    sg_RE_ALPHA_NUM = .anchoredStarZ (.set Gen.ALPHA_NUM) ∧
    sg_optimal_data_chunks_default_minimum = 4 ∧ sg_add_data_default_optimize = 20 :=
  ⟨rfl, rfl, rfl, rfl, rfl, rfl, rfl⟩

theorem clsPred_digits : clsPred .digits = isDigit := rfl
theorem clsPred_alnum : clsPred (.set sg_ALPHA_NUM) = isAlnum := by
  funext c; simp only [clsPred, isAlnum, consts_src.2.2.2.1]

/-- `to_bytestring(data)` returns a bytes object unchanged -/
theorem toBytestring_src {ε : Type} (py : sg_Py ε) (data : List Nat) (hb : py.isinstance_bytes data = true) :
    sg_to_bytestring py data = data := by
  simp [sg_to_bytestring, hb]

theorem toBytestring_model (F enc) (data : List Nat) : sg_to_bytestring (pyModel F enc) data = data :=
  toBytestring_src _ _ rfl

theorem isdigit_src (data : List Nat) : sg_py_isdigit data = (!data.isEmpty && data.all isDigit) := rfl

theorem match_alnum (data : List Nat) : (matchModel sg_RE_ALPHA_NUM data).isSome = data.all isAlnum := by
  have h : sg_RE_ALPHA_NUM = .anchoredStarZ (.set sg_ALPHA_NUM) := rfl
  rw [h]
  simp only [matchModel, searchModel, clsPred_alnum]
  cases data.all isAlnum <;> simp

/-- **`util.optimal_mode`** = `Model.optimalMode`, for every byte string -/
theorem optimalMode_src (F enc) (data : Bytes) :
    optimalMode data = sg_optimal_mode (pyModel F enc) data := by
  simp only [optimalMode, sg_optimal_mode, isdigit_src, pyModel, match_alnum, consts_src.1, consts_src.2.1, consts_src.2.2.1]

/-- **`QRData.__init__(data, mode, check_data)`** on a byte string = `Model.mkQRData`: same object, same exception -/
theorem mkQRData_src (F enc) (data : Bytes) (mode : Option Nat) (checkData : Bool) :
    sg_qrdata_init (pyModel F enc) data mode checkData = (mkQRData data mode checkData).map segQ := by
  have hd : (if checkData = true then sg_to_bytestring (pyModel F enc) data else data) = data := by
    split
    · exact toBytestring_model F enc data
    · rfl
  cases mode with
  | none =>
    simp only [sg_qrdata_init, mkQRData, hd, ← optimalMode_src]
    rfl
  | some m =>
    -- the source tests Booleans, the Model propositions
    have c1 : (!(decide (m = Gen.MODE_NUMBER) || decide (m = Gen.MODE_ALPHA_NUM) || decide (m = Gen.MODE_8BIT_BYTE))) =
        decide (¬ (m = Gen.MODE_NUMBER ∨ m = Gen.MODE_ALPHA_NUM ∨ m = Gen.MODE_8BIT_BYTE)) := by
      simp only [decide_not, Bool.decide_or, Bool.or_assoc]
    have c2 : (checkData && decide (m < optimalMode data)) = decide (checkData = true ∧ m < optimalMode data) := by
      simp only [Bool.decide_and, Bool.decide_eq_true]
    simp only [sg_qrdata_init, mkQRData, hd, ← optimalMode_src, consts_src.1, consts_src.2.1, consts_src.2.2.1, c1, c2,
      decide_eq_true_eq]
    split
    · rfl
    · split
      · rfl
      · rfl

/-! ### `_optimal_split`: the loop, for any engine -/

section loop
variable {ε : Type} (py : sg_Py ε) (pat : sg_Pat)

/-- what `_optimal_split` yields, from the loop result: the values yielded in the loop, then the final `if data: yield` -/
def splitOut (fuel : Nat) (data : List Nat) : List (Bool × List Nat) :=
  (sg_split_loop py pat fuel data).2 ++
    (if !(sg_split_loop py pat fuel data).1.isEmpty then [(false, (sg_split_loop py pat fuel data).1)] else [])

theorem optimalSplit_eq (data : List Nat) : sg_optimal_split py data pat = splitOut py pat (py.fuel data) data := rfl

variable {py} {pat}

theorem splitOut_zero (data : List Nat) :
    splitOut py pat 0 data = if data.isEmpty then [] else [(false, data)] := by
  cases data <;> simp [splitOut, sg_split_loop]

theorem splitOut_nil (fuel : Nat) : splitOut py pat fuel [] = [] := by
  cases fuel <;> simp [splitOut, sg_split_loop, sg_split_cond]

theorem splitOut_break (fuel : Nat) (data : List Nat) (hne : data ≠ []) (h : py.re_search pat data = none) :
    splitOut py pat (fuel + 1) data = [(false, data)] := by
  simp [splitOut, sg_split_loop, sg_split_cond, sg_split_body, h, hne]

theorem splitOut_step (fuel : Nat) (data : List Nat) {s e : Nat} (hne : data ≠ []) (h : py.re_search pat data = some (s, e)) :
    splitOut py pat (fuel + 1) data =
      (if s ≠ 0 then [(false, data.take s)] else []) ++ (true, (data.take e).drop s) :: splitOut py pat fuel (data.drop e) := by
  simp [splitOut, sg_split_loop, sg_split_cond, sg_split_body, h, hne, sg_slice, sg_slice_to, sg_slice_from]

/-- the loop ends by itself: if every match on non-empty data ends after position 0, the result is the same for any two
    fuels ≥ `len(data)` (no yielded value is cut off by the fuel) -/
theorem splitOut_fuel (hprog : ∀ d s e, d ≠ [] → py.re_search pat d = some (s, e) → 0 < e) :
    ∀ (fuel fuel' : Nat) (data : List Nat), data.length ≤ fuel → data.length ≤ fuel' →
      splitOut py pat fuel data = splitOut py pat fuel' data := by
  intro fuel
  induction fuel with
  | zero =>
    intro fuel' data h _
    have : data = [] := List.length_eq_zero_iff.mp (by omega)
    subst this
    rw [splitOut_nil, splitOut_nil]
  | succ f ih =>
    intro fuel' data h h'
    by_cases hne : data = []
    · subst hne
      rw [splitOut_nil, splitOut_nil]
    · have hpos : 0 < data.length := List.length_pos_iff.mpr hne
      obtain ⟨g, rfl⟩ : ∃ g, fuel' = g + 1 := ⟨fuel' - 1, by omega⟩
      cases hs : py.re_search pat data with
      | none => rw [splitOut_break f data hne hs, splitOut_break g data hne hs]
      | some m =>
        obtain ⟨s, e⟩ := m
        have he := hprog data s e hne hs
        have hlen : (data.drop e).length < data.length := by
          rw [List.length_drop]
          omega
        rw [splitOut_step f data hne hs, splitOut_step g data hne hs,
          ih g (data.drop e) (by omega) (by omega)]
end loop

/-! ### `_optimal_split` with the Model's engine -/

/-- `splitRuns` is the translated loop + final yield run with the Model's engine (the `fuel` field plays no role here) -/
theorem splitRuns_out (F enc) (c : sg_Cls) (n : Nat) : ∀ (fuel : Nat) (data : List Nat),
    splitRuns (clsPred c) n fuel data = splitOut (pyModel F enc) (.atLeast c n) fuel data := by
  intro fuel
  induction fuel with
  | zero =>
    intro data
    rw [splitOut_zero]
    rfl
  | succ f ih =>
    intro data
    by_cases hne : data = []
    · subst hne
      rw [splitOut_nil]
      rfl
    · have hemp : data.isEmpty = false := by simpa using hne
      have hfr := Seg.findRun_spec (clsPred c) n (data.length + 1) data (Nat.lt_succ_self _)
      cases hf : findRun (clsPred c) n (data.length + 1) data with
      | none =>
        have hs : (pyModel F enc).re_search (.atLeast c n) data = none := by
          simp only [pyModel, searchModel, hf]
        rw [splitOut_break f data hne hs]
        simp only [splitRuns, hemp, hf]
        rfl
      | some r =>
        obtain ⟨pre, run, after⟩ := r
        have hs : (pyModel F enc).re_search (.atLeast c n) data = some (pre.length, pre.length + run.length) := by
          simp only [pyModel, searchModel, hf]
        rw [hf] at hfr
        obtain ⟨t1, t2, t3⟩ := take_drop_of_append hfr.1
        rw [splitOut_step f data hne hs, t1, t2, t3, ← ih after]
        simp only [splitRuns, hemp, hf]
        cases pre <;> simp

/-- `splitAnchored` is the translated loop + final yield run with the Model's engine, as soon as one iteration is granted -/
theorem splitAnchored_out (F enc) (c : sg_Cls) (f : Nat) (data : List Nat) :
    splitAnchored (clsPred c) data = splitOut (pyModel F enc) (.anchoredPlus c) (f + 1) data := by
  by_cases hne : data = []
  · subst hne
    simp [splitAnchored, splitOut_nil]
  · have hemp : data.isEmpty = false := by simpa using hne
    cases hc : (!(data.takeWhile (clsPred c)).isEmpty &&
        ((data.dropWhile (clsPred c)).isEmpty || data.dropWhile (clsPred c) == [10])) with
    | true =>
      have hs : (pyModel F enc).re_search (.anchoredPlus c) data = some (0, (data.takeWhile (clsPred c)).length) := by
        simp only [pyModel, searchModel, hc, if_true]
      rw [splitOut_step f data hne hs, take_length_takeWhile, drop_length_takeWhile]
      simp only [splitAnchored, hc, if_true, ne_eq, not_true_eq_false, if_false, List.nil_append, List.drop_zero]
      congr 1
      simp only [Bool.and_eq_true, Bool.or_eq_true] at hc
      rcases hc.2 with h0 | h10
      · have : data.dropWhile (clsPred c) = [] := by simpa using h0
        rw [this, splitOut_nil]
        rfl
      · -- the rest is the final "\n": one more pass of the loop finds no match in it and yields it
        have h10' : data.dropWhile (clsPred c) = [10] := by simpa using h10
        have hp : clsPred c 10 = false := of_dropWhile_eq_cons h10'
        rw [h10']
        cases f with
        | zero => rw [splitOut_zero]
        | succ f' =>
          have hs2 : (pyModel F enc).re_search (.anchoredPlus c) [10] = none := by
            simp [pyModel, searchModel, hp]
          rw [splitOut_break f' [10] (by simp) hs2]
          rfl
    | false =>
      have hs : (pyModel F enc).re_search (.anchoredPlus c) data = none := by
        simp only [pyModel, searchModel, hc]
        rfl
      rw [splitOut_break f data hne hs]
      simp only [splitAnchored, hc, hemp]
      rfl

/-! ### the loops end by themselves (the fuel never cuts a result short) -/

theorem searchModel_progress (p : sg_Pat) (d : List Nat) (s e : Nat) (hne : d ≠ []) (h : searchModel p d = some (s, e)) : 0 < e := by
  cases p with
  | atLeast c n =>
    simp only [searchModel] at h
    cases hf : findRun (clsPred c) n (d.length + 1) d with
    | none => simp [hf] at h
    | some r =>
      obtain ⟨pre, run, after⟩ := r
      simp only [hf, Option.some.injEq, Prod.mk.injEq] at h
      have hfr := Seg.findRun_spec (clsPred c) n (d.length + 1) d (Nat.lt_succ_self _)
      rw [hf] at hfr
      obtain ⟨-, hr, -⟩ := hfr
      have : 0 < run.length := List.length_pos_iff.mpr hr
      omega
  | anchoredPlus c =>
    simp only [searchModel] at h
    split at h
    · rename_i hc
      simp only [Option.some.injEq, Prod.mk.injEq] at h
      simp only [Bool.and_eq_true, Bool.not_eq_true', List.isEmpty_eq_false_iff] at hc
      have : 0 < (d.takeWhile (clsPred c)).length := List.length_pos_iff.mpr hc.1
      omega
    · simp at h
  | anchoredStarZ c =>
    simp only [searchModel] at h
    split at h
    · simp only [Option.some.injEq, Prod.mk.injEq] at h
      have : 0 < d.length := List.length_pos_iff.mpr hne
      omega
    · simp at h

/-- with the Model's engine every fuel ≥ `len(data)` gives the result of fuel `len(data)`: `_optimal_split` terminates and
    `Model.splitRuns … d.length d` is its complete output -/
theorem optimalSplit_fuel (F enc) (p : sg_Pat) (fuel : Nat) (data : List Nat) (h : data.length ≤ fuel) :
    splitOut (pyModel F enc) p fuel data = splitOut (pyModel F enc) p data.length data :=
  splitOut_fuel (fun d s e hne hs => searchModel_progress p d s e hne hs) fuel data.length data h (Nat.le_refl _)

/-! ### `optimal_data_chunks` and `QRCode.add_data`: the generator loops and the `QRData(...)` calls -/

/-- a generator loop none of whose passes raises yields the concatenation -/
theorem for_yield_ok {ε α β : Type} (f : α → Except ε (List β)) (g : α → List β) :
    ∀ (l : List α), (∀ a ∈ l, f a = .ok (g a)) → sg_for_yield l f = .ok (l.flatMap g)
  | [], _ => rfl
  | a :: l, h => by
    have h1 := h a (by simp)
    have h2 := for_yield_ok f g l (fun b hb => h b (by simp [hb]))
    simp only [sg_for_yield, h1, h2, List.flatMap_cons]
    rfl

/-- a generator loop stops at the first pass that raises -/
theorem for_yield_error {ε α β : Type} (f : α → Except ε (List β)) (a : α) (l : List α) (e : ε) (h : f a = .error e) :
    sg_for_yield (a :: l) f = .error e := by
  simp only [sg_for_yield, h]; rfl

/-- `QRData(chunk, mode=m, check_data=False)` for one of the three modes never raises -/
theorem qrdata_unchecked (F enc) (d : List Nat) (m : Nat)
    (hm : m = Gen.MODE_NUMBER ∨ m = Gen.MODE_ALPHA_NUM ∨ m = Gen.MODE_8BIT_BYTE) :
    sg_qrdata_init (pyModel F enc) d (some m) false = .ok { mode := m, data := d } := by
  rw [mkQRData_src]
  simp [mkQRData, hm, segQ, Except.map]

/-- `QRData(data)` never raises and picks the optimal mode -/
theorem qrdata_default (F enc) (d : List Nat) :
    sg_qrdata_init (pyModel F enc) d none true = .ok { mode := optimalMode d, data := d } := by
  rw [mkQRData_src]
  simp [mkQRData, segQ, Except.map]

/-- the Model's `split` (the local function of `optimalDataChunks`, `Seg.splitBy`) is `_optimal_split` with the pattern the
    source builds in the corresponding branch, the loop being granted at least `len(d)` iterations -/
theorem split_model (F enc) (hF : ∀ d : List Nat, d.length ≤ F d) (c : sg_Cls) (A : Prop) [Decidable A] (minimum : Nat) (d : List Nat) :
    sg_optimal_split (pyModel F enc) d (if decide A = true then .anchoredPlus c else .atLeast c minimum) =
      Seg.splitBy A minimum (clsPred c) d := by
  rw [optimalSplit_eq]
  -- the fuel `(pyModel F enc).fuel d` is `F d`: written so for the `rw`
  show splitOut _ _ (F d) d = _
  rw [optimalSplit_fuel F enc _ (F d) d (hF d)]
  unfold Seg.splitBy
  by_cases hA : A
  · simp only [hA, decide_true, if_true]
    cases d with
    | nil => simp [splitOut_nil, splitAnchored]
    | cons a t => exact (splitAnchored_out _ enc c t.length (a :: t)).symm
  · simp only [hA, decide_false, Bool.false_eq_true, if_false]
    exact (splitRuns_out _ enc c minimum d.length d).symm

/-- **`util.optimal_data_chunks(data, minimum)`** on a byte string, run with the Model's regex engine and ANY number
    `F d ≥ len(d)` of iterations granted to each `_optimal_split(d, …)`, raises nothing and yields exactly
    `Model.optimalDataChunks data minimum` -/
theorem optimalDataChunks_src (F enc) (hF : ∀ d : List Nat, d.length ≤ F d) (data : Bytes) (minimum : Nat) :
    sg_optimal_data_chunks (pyModel F enc) data minimum = .ok ((optimalDataChunks data minimum).map segQ) := by
  obtain ⟨c1, c2, c3, -⟩ := consts_src
  unfold sg_optimal_data_chunks
  simp only [toBytestring_model, split_model F enc hF, clsPred_digits, clsPred_alnum]
  rw [Seg.optimalDataChunks_eq, Seg.segsOf, List.map_flatMap]
  apply for_yield_ok
  intro x _
  by_cases hx : x.1 = true
  · simp only [hx, if_true]
    rw [qrdata_unchecked _ enc x.2 _ (Or.inl c1)]
    rfl
  · simp only [hx, Bool.false_eq_true, if_false]
    rw [for_yield_ok _ (fun y => [segQ { mode := if y.1 = true then 2 else 4, data := y.2 }])]
    · rw [List.map_map, List.map_eq_flatMap]
      rfl
    · intro y _
      by_cases hy : y.1 = true
      · simp only [hy, if_true]
        rw [qrdata_unchecked _ enc y.2 _ (Or.inr (Or.inl c2))]
        rfl
      · simp only [hy, Bool.false_eq_true, if_false]
        rw [qrdata_unchecked _ enc y.2 _ (Or.inr (Or.inr c3))]
        rfl

/-- **`QRCode.add_data(data, optimize)`** for a byte string: `self.data_list` is extended by exactly `Model.addData data optimize`
    and `self.data_cache` is reset, for every `optimize ≥ 0` (truthiness of `optimize` = `≠ 0`) -/
theorem addData_src (F enc) (hF : ∀ d : List Nat, d.length ≤ F d) {κ : Type} (dl : List sg_QRData) (cache : Option κ)
    (data : Bytes) (optimize : Nat) :
    sg_add_data (pyModel F enc) dl cache (.inr data) optimize =
      .ok (dl ++ (addData data optimize).map segQ, none) := by
  unfold sg_add_data
  by_cases h : optimize = 0
  · subst h
    simp only [ne_eq, not_true_eq_false, decide_false, Bool.false_eq_true, if_false, qrdata_default, addData]
    rfl
  · simp only [ne_eq, h, not_false_eq_true, decide_true, if_true, optimalDataChunks_src F enc hF, addData]
    rfl

end QR.SourceTieD1

/-! ### the Spec's view of the translated `QRData` objects (for the capstones `C10_source_capstone_*`, Props/C10.lean) -/
namespace QR.CapstoneE3
open QR.Model QR.Gen.Code QR.SourceTieD1

/-- Spec view of a TRANSLATED `QRData` object (`QR.Gen.Code.sg_QRData`): the same reading as `QR.toPSeg` for a Model
    segment (`none` for an unsupported mode number) -/
def qToPSeg (q : sg_QRData) : Option Spec.PSeg :=
  (Spec.Mode.ofIndicator q.mode).map fun m => { mode := m, data := q.data }

def qToPSegs (qs : List sg_QRData) : Option (List Spec.PSeg) := qs.mapM qToPSeg

theorem qToPSeg_segQ (s : Seg) : qToPSeg (segQ s) = toPSeg s := rfl

theorem qToPSegs_map_segQ (segs : List Seg) : qToPSegs (segs.map segQ) = toPSegs segs := List.mapM_map

theorem flatMap_data_map_segQ (segs : List Seg) : (segs.map segQ).flatMap (·.data) = segs.flatMap (·.data) :=
  List.flatMap_map ..

end QR.CapstoneE3
