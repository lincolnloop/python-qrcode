import QR.Gen.Code
import QR.Model.QRObject
/-
Translation validation for C16 (plugin `frag_b.py`): the two bridges for `QRCode.get_matrix` that the operation sequences of
CapstoneObject.lean use as well as C16: the `not self.border` early return (`get_matrix_early`) and the framing code on the
object model's `Optional[bool]` cells (`Model.framedOpt`).  The bridges for `Model.getMatrix` (definite modules) and
`Model.ensureMade` are proved in QR/Props/C16.lean.
-/
namespace QR.SourceTieB
open QR.Model QR.Gen.Code

theorem get_matrix_early_eq (border : Nat) : get_matrix_early border = decide (border = 0) := by
  unfold get_matrix_early; by_cases h : border = 0 <;> simp [h]

/-- `get_matrix()` once compiled, on the object model's cells (`None` possible before compilation, `False` fill = `some false`) -/
theorem framedOpt_src (m : List (List (Option Bool))) (border : Nat) :
    framedOpt m border = if get_matrix_early border then m else get_matrix_code (some false) m border := by
  unfold framedOpt get_matrix_code
  rw [get_matrix_early_eq]
  by_cases h : border = 0 <;> simp [h]

end QR.SourceTieB
