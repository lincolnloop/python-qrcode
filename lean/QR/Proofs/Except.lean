import QR.Model.Basic
/-
Lemmas about the `Except Err` monad the model is written in.
-/
namespace QR

@[simp] theorem R.bind_ok {α β} (a : α) (f : α → R β) : ((Except.ok a : R α) >>= f) = f a := rfl
@[simp] theorem R.bind_error {α β} (e : Err) (f : α → R β) : ((Except.error e : R α) >>= f) = Except.error e := rfl
@[simp] theorem R.pure_eq {α} (a : α) : (pure a : R α) = Except.ok a := rfl

theorem R.bind_eq_ok {α β} {x : R α} {f : α → R β} {b : β} :
    (x >>= f) = Except.ok b ↔ ∃ a, x = Except.ok a ∧ f a = Except.ok b := by
  cases x with
  | error e => simp
  | ok a => simp

theorem R.bind_eq_error {α β} {x : R α} {f : α → R β} {e : Err} :
    (x >>= f) = Except.error e ↔ x = Except.error e ∨ ∃ a, x = Except.ok a ∧ f a = Except.error e := by
  cases x with
  | error e' => simp
  | ok a => simp

theorem R.map_eq_ok {α β} {x : R α} {f : α → β} {b : β} :
    (f <$> x) = Except.ok b ↔ ∃ a, x = Except.ok a ∧ f a = b := by
  cases x with
  | error e => simp [Functor.map, Except.map]
  | ok a => simp [Functor.map, Except.map]

theorem R.map_eq_error {α β} {x : R α} {f : α → β} {e : Err} : (f <$> x) = Except.error e ↔ x = Except.error e := by
  cases x with
  | error e' => exact ⟨fun h => by cases h; rfl, fun h => by cases h; rfl⟩
  | ok a => exact ⟨fun h => (nomatch h), fun h => (nomatch h)⟩

/-! A run described completely - a value with `P`, or the error `e` with `Q` - gives at once what a successful run
    satisfies, that `e` is the only error, and (when `P` excludes `Q`) that `e` is raised exactly when `Q` holds. -/

theorem R.ok_of_char {α} {x : R α} {P : α → Prop} {e : Err} {Q : Prop}
    (h : (∃ a, x = .ok a ∧ P a) ∨ (x = .error e ∧ Q)) {a : α} (ha : x = .ok a) : P a := by
  rcases h with ⟨a', h', hP⟩ | ⟨h', _⟩
  · cases ha.symm.trans h'; exact hP
  · cases ha.symm.trans h'

theorem R.error_of_char {α} {x : R α} {P : α → Prop} {e : Err} {Q : Prop}
    (h : (∃ a, x = .ok a ∧ P a) ∨ (x = .error e ∧ Q)) {e' : Err} (he : x = .error e') : e' = e ∧ Q := by
  rcases h with ⟨a', h', _⟩ | ⟨h', hQ⟩
  · cases he.symm.trans h'
  · cases he.symm.trans h'; exact ⟨rfl, hQ⟩

theorem R.error_iff_of_char {α} {x : R α} {P : α → Prop} {e : Err} {Q : Prop}
    (h : (∃ a, x = .ok a ∧ P a) ∨ (x = .error e ∧ Q)) (hPQ : ∀ a, P a → ¬ Q) : x = .error e ↔ Q := by
  refine ⟨fun he => (R.error_of_char h he).2, fun hQ => ?_⟩
  rcases h with ⟨a, _, hP⟩ | ⟨h', _⟩
  · exact absurd hQ (hPQ a hP)
  · exact h'

/-- a run whose `toOption` is `some a` returned `a` (so a closed run can be compared by evaluation) -/
theorem R.eq_ok_of_toOption {α} {x : R α} {a : α} (h : x.toOption = some a) : x = .ok a := by
  cases x with
  | error e => cases h
  | ok b =>
    cases h
    rfl

/-- `map` written with `bind`, so that a run of binds followed by a `map` can be normalised by `bind_assoc` -/
theorem R.map_eq_bind {α β} (f : α → β) (x : R α) : x.map f = x >>= fun a => .ok (f a) := by
  cases x <;> rfl

/-- the check `if c: raise e` returns exactly when `c` is false, and raises nothing but `e` -/
theorem R.guard_ok {c : Prop} [Decidable c] {e : Err} {u : Unit} :
    (if c then (.error e : R Unit) else .ok ()) = .ok u ↔ ¬c := by
  split <;> simp [*]

theorem R.guard_error {c : Prop} [Decidable c] {e e' : Err} :
    (if c then (.error e : R Unit) else .ok ()) = .error e' ↔ c ∧ e = e' := by
  split <;> simp [*]

end QR
