import QR.Model.Compile
import QR.Spec.Penalty
import QR.Proofs.Except
/-
The stages of `Model.compile`: version, codewords, mask, final `makeImpl`; when `blank` and `makeImpl` succeed (version at
most 40, mask below 8: the only ways they fail); the recursion equation of the first minimum `Spec.argminFirst` that the mask
stage computes.
-/
namespace QR
open QR.Model

/-- `blank` fails only for want of an alignment-pattern row.  `v = 0` is included: `patternPosition 0` reads row
    `0 - 1 = 0` of the table.  The source never asks for the blank of version `None`: reading `self.version` runs
    `best_fit()` first. -/
theorem blank_ok_iff (v : Nat) : (∃ b, blank v = .ok b) ↔ v ≤ 40 := by
  have hlen : Gen.PATTERN_POSITION_TABLE.length = 40 := by decide
  simp only [blank, patternPosition, idx]
  cases h : Gen.PATTERN_POSITION_TABLE[v - 1]? with
  | none =>
    have := List.getElem?_eq_none_iff.1 h
    exact ⟨fun ⟨_, hb⟩ => (nomatch hb), fun _ => by omega⟩
  | some pos =>
    have := (List.getElem?_eq_some_iff.1 h).1
    exact ⟨fun _ => by omega, fun _ => ⟨_, rfl⟩⟩

theorem le_of_blank_ok {v : Nat} {b : Mat} (h : blank v = .ok b) : v ≤ 40 := (blank_ok_iff v).1 ⟨b, h⟩

theorem makeImpl_eq (v l : Nat) (test : Bool) (mask : Nat) (data : List Nat) :
    makeImpl v l test mask data = (blank v >>= fun b =>
      if mask > 7 then .error .typeError
      else pure (mapData (v * 4 + 17)
        (if v ≥ 7 then setupTypeNumber (v * 4 + 17) v (setupTypeInfo (v * 4 + 17) l b test mask) test
         else setupTypeInfo (v * 4 + 17) l b test mask) data mask)) := rfl

theorem makeImpl_error_of_blank {v l : Nat} {test : Bool} {mask : Nat} {data : List Nat} {e : Err}
    (h : blank v = .error e) : makeImpl v l test mask data = .error e := by
  rw [makeImpl_eq, h]; rfl

/-- `makeImpl` fails only for want of a blank or of a mask function, whatever the level and the codewords -/
theorem makeImpl_ok_iff (v l : Nat) (test : Bool) (mask : Nat) (data : List Nat) :
    (∃ M, makeImpl v l test mask data = .ok M) ↔ v ≤ 40 ∧ mask < 8 := by
  rw [makeImpl_eq, ← blank_ok_iff]
  constructor
  · rintro ⟨M, h⟩
    obtain ⟨b, hb, h⟩ := R.bind_eq_ok.mp h
    refine ⟨⟨b, hb⟩, Nat.lt_succ_of_le (Nat.not_lt.mp fun hgt => ?_)⟩
    rw [if_pos hgt] at h
    cases h
  · rintro ⟨⟨b, hb⟩, hk⟩
    rw [hb, R.bind_ok, if_neg (Nat.not_lt.mpr (Nat.le_of_lt_succ hk))]
    exact ⟨_, rfl⟩

/-- the mask `make` uses: the configured one, or the best -/
def maskChoice (mask : Option Nat) (version level : Nat) (data : List Nat) : R Nat :=
  match mask with
  | some m => pure m
  | none => bestMaskPattern version level data

theorem compile_eq (cfg : Cfg) (segs : List Seg) :
    compile cfg segs = (chooseVersion cfg segs >>= fun v => createData v cfg.level segs >>= fun data =>
      maskChoice cfg.mask v cfg.level data >>= fun mask => makeImpl v cfg.level false mask data >>= fun m =>
      pure (v, mask, m)) := by
  obtain ⟨v, l, mask, fit⟩ := cfg
  cases mask <;> rfl

namespace Proofs

theorem chooseVersion_eq (cfg : Cfg) (segs : List Seg) :
    chooseVersion cfg segs =
      ((if cfg.version = 0 then bestFit 4 0 cfg.level segs else .ok cfg.version) >>= fun v0 =>
        if cfg.fit = true then bestFit 4 v0 cfg.level segs else .ok v0) := by
  by_cases h : cfg.version = 0 <;> simp only [chooseVersion, h, ↓reduceIte] <;> rfl

/-- the stages of a successful `compile` (no hypothesis on the input) -/
theorem compile_eq_ok {cfg : Cfg} {segs : List Seg} {v k : Nat} {M : Mat} :
    compile cfg segs = .ok (v, k, M) ↔
      ∃ data, chooseVersion cfg segs = .ok v ∧ createData v cfg.level segs = .ok data ∧
        maskChoice cfg.mask v cfg.level data = .ok k ∧ makeImpl v cfg.level false k data = .ok M := by
  rw [compile_eq]
  constructor
  · intro h
    obtain ⟨v', hv', h⟩ := R.bind_eq_ok.mp h
    obtain ⟨data, hd, h⟩ := R.bind_eq_ok.mp h
    obtain ⟨k', hk, h⟩ := R.bind_eq_ok.mp h
    obtain ⟨M', hM, h⟩ := R.bind_eq_ok.mp h
    cases h
    exact ⟨data, hv', hd, hk, hM⟩
  · rintro ⟨data, hv', hd, hk, hM⟩
    rw [hv', R.bind_ok, hd, R.bind_ok, hk, R.bind_ok, hM, R.bind_ok]
    rfl

/-- one more candidate: it wins only with a strictly smaller score -/
theorem argminFirst_succ (k : Nat) (f : Nat → Nat) :
    Spec.argminFirst (k + 1) f = if f k < f (Spec.argminFirst k f) then k else Spec.argminFirst k f := by
  unfold Spec.argminFirst
  rw [List.range_succ, List.foldl_append]
  rfl

/-- `argminFirst k` returns one of `0 .. k-1` (0 when there is no candidate) -/
theorem argminFirst_le_pred (k : Nat) (f : Nat → Nat) : Spec.argminFirst k f ≤ k - 1 := by
  induction k with
  | zero => exact Nat.le_refl 0
  | succ k ih =>
    rw [argminFirst_succ]
    split <;> omega

theorem argminFirst_congr (k : Nat) (f g : Nat → Nat) (h : ∀ i, i < k → f i = g i) :
    Spec.argminFirst k f = Spec.argminFirst k g := by
  induction k with
  | zero => rfl
  | succ k ih =>
    have hlt := argminFirst_le_pred k g
    rw [argminFirst_succ, argminFirst_succ, ih fun i hi => h i (Nat.lt_succ_of_lt hi), h k (Nat.lt_succ_self k),
      h (Spec.argminFirst k g) (by omega)]

end Proofs

end QR
