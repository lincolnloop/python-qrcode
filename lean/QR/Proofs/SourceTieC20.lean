import QR.Gen.Code
import QR.Model.Release
import QR.Proofs.Release
/-
Translation validation for C20 (plugin `frag_c.py`): `qrcode/release.py update_manpage`.  The fixed Lean meaning the translator gives to the
Python builtins (`manpage_py_startswith`, `manpage_py_join`, `manpage_py_readlines`, `manpage_py_re_split`) against the model's
`startsWithTH`, `joinQuote`, `readLines`, `reSplit`.  The loop (`manpage_body`, `manpage_loop` against `Model.processLines`)
and the function (`manpage_update` against `Model.updateManpage`) are bridged in `QR/Props/C20.lean`.
-/
namespace QR.SourceTieT
open QR.Model QR.Gen.Code QR.Proofs.Release

/-- `line.startswith(".TH ")` -/
theorem startsWithTH_src (line : List Char) :
    startsWithTH line = manpage_py_startswith line ['.', 'T', 'H', ' '] := by
  rw [Bool.eq_iff_iff, startsWithTH, manpage_py_startswith, beq_iff_eq, List.isPrefixOf_iff_prefix,
    List.prefix_iff_eq_take]
  exact eq_comm

/-- `'"'.join(parts)` -/
theorem joinQuote_src (parts : List (List Char)) : joinQuote parts = manpage_py_join ['"'] parts := by
  induction parts with
  | nil => rfl
  | cons p rest ih =>
    cases rest with
    | nil => rfl
    | cons q rest =>
      rw [joinQuote_cons (by simp), ih]
      simp [manpage_py_join]

/-- `re.split(r'"([^"]*)"', s)`: the scanner for the pattern family `d([^d]*)d` at `d = '"'` -/
theorem reSplit_src (fuel : Nat) (s : List Char) : reSplit fuel s = manpage_py_re_split '"' fuel s := by
  induction fuel generalizing s with
  | zero => rfl
  | succ f ih =>
    rcases split_first '"' s with ⟨ht, h1, _⟩ | ⟨t, r, rfl, _, _, h1⟩
    -- without a quote the model returns `s.takeWhile (· ≠ '"')`, the translator's scanner `s`
    · simp only [reSplit, manpage_py_re_split, h1, ht]
    · rcases split_first '"' r with ⟨_, h2, _⟩ | ⟨q, r', rfl, _, _, h2⟩
      · simp only [reSplit, manpage_py_re_split, h1, h2]
      · simp only [reSplit, manpage_py_re_split, h1, h2, ih]

/-- the fuel `s.length + 1` the translator passes to the scanner is enough: any two sufficient fuels give the same result
(so the `0, s => [s]` clause of the scanner is never reached from the translated code) -/
theorem manpage_re_split_fuel (d : Char) (f1 f2 : Nat) (s : List Char) (h1 : s.length < f1) (h2 : s.length < f2) :
    manpage_py_re_split d f1 s = manpage_py_re_split d f2 s := by
  induction f1 generalizing f2 s with
  | zero => omega
  | succ f1 ih =>
    cases f2 with
    | zero => omega
    | succ f2 =>
      rcases split_first d s with ⟨_, hd, _⟩ | ⟨t, r, rfl, ht, _, hd⟩
      · simp only [manpage_py_re_split, hd]
      · rcases split_first d r with ⟨_, hd', _⟩ | ⟨q, r', rfl, hq, _, hd'⟩
        · simp only [manpage_py_re_split, hd, hd']
        · simp only [manpage_py_re_split, hd, hd']
          rw [ih f2 r' (by simp at h1; omega) (by simp at h2; omega)]

private theorem manpage_readlines_term (b R : List Char) (hb : ∀ c ∈ b, c ≠ '\n') :
    manpage_py_readlines (b ++ '\n' :: R) = (b ++ ['\n']) :: manpage_py_readlines R := by
  induction b with
  | nil => simp [manpage_py_readlines]
  | cons a b ih =>
    have ha : a ≠ '\n' := hb a (by simp)
    have hb' : ∀ c ∈ b, c ≠ '\n' := fun c hc => hb c (by simp [hc])
    simp only [List.cons_append, manpage_py_readlines, ha, if_false, ih hb']

private theorem manpage_readlines_unterm {l : List Char} (h : Unterm l) : manpage_py_readlines l = [l] := by
  obtain ⟨hne, hl⟩ := h
  induction l with
  | nil => exact absurd rfl hne
  | cons a l ih =>
    have ha : a ≠ '\n' := hl a (by simp)
    have hl' : ∀ c ∈ l, c ≠ '\n' := fun c hc => hl c (by simp [hc])
    cases l with
    | nil => simp [manpage_py_readlines, ha]
    | cons b l => rw [manpage_py_readlines, if_neg ha, ih (by simp) hl']

/-- `f.readlines()`: the model's fuel-bounded line splitter equals the structural one, for every sufficient fuel -/
theorem readLines_fuel_src (fuel : Nat) (s : List Char) (hf : s.length < fuel) :
    readLines fuel s = manpage_py_readlines s := by
  rw [readLines_eq_lineSplit]
  induction fuel generalizing s with
  | zero => omega
  | succ n ih =>
    rcases lineSplit_succ n s with ⟨rfl, h⟩ | ⟨hu, h⟩ | ⟨t, r, rfl, ht, h⟩ <;> rw [h]
    · rfl
    · rw [manpage_readlines_unterm hu]
    · rw [manpage_readlines_term t r ht, ih r (by simp at hf; omega)]

end QR.SourceTieT
