import QR.Proofs.StreamModes
/-
Segment lists (C06 / C07 / spine of C01): what `segsBits` writes for a list of valid segments, for ANY character-count
width function (`create_data` uses `length_in_bits(·, v)`, `best_fit` the dict of the class of its start version):
it succeeds, the length is the closed form, and with the ISO widths of `v` the ISO parser recovers the segments.
-/
namespace QR
open Model

/-- a continuation at which the segment parser stops: fewer than 4 bits left, or a 0000 terminator -/
def StopsParse (rest : List Bool) : Prop := rest.length < 4 ∨ rest.take 4 = [false, false, false, false]

theorem parseSegs_stop (v fuel : Nat) {rest : List Bool} (h : StopsParse rest) :
    Spec.parseSegs v (fuel + 1) rest = some ([], rest) := by
  rcases h with h | h
  · have : (rest.take 4).length < 4 := by rw [List.length_take]; omega
    simp only [Spec.parseSegs, this, ↓reduceIte]
  · have h0 : Spec.bitsVal (rest.take 4) = 0 := by rw [h]; rfl
    have : ¬ (rest.take 4).length < 4 := by rw [h]; simp
    simp only [Spec.parseSegs, this, ↓reduceIte, h0]

def parseBody : Spec.Mode → Nat → List Bool → Option (List Nat × List Bool)
  | .numeric => Spec.parseNumeric
  | .alnum => Spec.parseAlnum
  | .byte => Spec.parseBytes

theorem parseSegs_header {v : Nat} (m : Spec.Mode) {n : Nat} (hn : n < 2 ^ Spec.countWidth v m) {d rest : List Bool}
    {cs : List Nat} (hbody : parseBody m n (d ++ rest) = some (cs, rest)) {fuel : Nat} {tlp : List Spec.PSeg}
    {rest' : List Bool} (htl : Spec.parseSegs v fuel rest = some (tlp, rest')) :
    Spec.parseSegs v (fuel + 1) (bitsBE m.indicator 4 ++ bitsBE n (Spec.countWidth v m) ++ d ++ rest) =
      some (⟨m, cs⟩ :: tlp, rest') := by
  have hvc := bitsVal_bitsBE hn
  have hi : Spec.bitsVal (bitsBE m.indicator 4) = m.indicator ∧ m.indicator ≠ 0 ∧
      Spec.Mode.ofIndicator m.indicator = some m := by cases m <;> decide
  cases m <;>
    simp only [parseBody] at hbody <;>
    simp only [Spec.parseSegs, List.append_assoc, take_bitsBE_append, drop_bitsBE_append, bitsBE_length,
      Nat.lt_irrefl, ↓reduceIte, hi.1, hi.2.1, hi.2.2, hvc, hbody, htl]

theorem seg_roundtrip (s : Seg) (hs : s.Valid) :
    ∃ m d, toPSeg s = some ⟨m, s.data⟩ ∧ s.mode = m.indicator ∧ segWrite s = .ok d ∧
      d.length = Spec.bodyBits m s.data.length ∧ ∀ rest, parseBody m s.data.length (d ++ rest) = some (s.data, rest) := by
  obtain ⟨mode, data⟩ := s
  rcases hs with ⟨hm, hd⟩ | ⟨hm, hd⟩ | ⟨hm, hd⟩ <;> simp only at hm hd <;> subst hm
  · obtain ⟨d, hw, hlen, hparse⟩ := writeNumeric_roundtrip data data.length hd (Nat.le_refl _)
    exact ⟨.numeric, d, rfl, rfl, by simp [segWrite, Gen.MODE_NUMBER, hw], hlen, hparse⟩
  · obtain ⟨d, hw, hlen, hparse⟩ := writeAlnum_roundtrip data hd
    exact ⟨.alnum, d, rfl, rfl, by simp [segWrite, Gen.MODE_NUMBER, Gen.MODE_ALPHA_NUM, hw], hlen, hparse⟩
  · exact ⟨.byte, writeBytes data, rfl, rfl, by simp [segWrite, Gen.MODE_NUMBER, Gen.MODE_ALPHA_NUM],
      writeBytes_length data, writeBytes_roundtrip data hd⟩

theorem toPSegs_cons (s : Seg) (segs : List Seg) :
    toPSegs (s :: segs) = (toPSeg s).bind fun p => (toPSegs segs).bind fun ps => some (p :: ps) := by
  simp only [toPSegs, List.mapM_cons]
  rfl

theorem segsBits_spec {w : Nat → R Nat} {width : Spec.Mode → Nat} (hw : ∀ m : Spec.Mode, w m.indicator = .ok (width m))
    (segs : List Seg) (hvalid : ∀ s ∈ segs, s.Valid) :
    ∃ bits ps, segsBits w segs = .ok bits ∧ toPSegs segs = some ps ∧ ps.length = segs.length ∧
      bits.length = ((segCounts ps).map fun (m, n) => 4 + width m + Spec.bodyBits m n).sum ∧
      ∀ v, width = Spec.countWidth v → (∀ p ∈ ps, p.data.length < 2 ^ Spec.countWidth v p.mode) →
        ∀ rest, StopsParse rest → ∀ fuel, segs.length < fuel → Spec.parseSegs v fuel (bits ++ rest) = some (ps, rest) := by
  induction segs with
  | nil =>
    refine ⟨[], [], rfl, rfl, rfl, rfl, fun v _ _ rest hrest fuel hfuel => ?_⟩
    obtain ⟨f, rfl⟩ : ∃ f, fuel = f + 1 := ⟨fuel - 1, by simp only [List.length_nil] at hfuel; omega⟩
    exact parseSegs_stop v f hrest
  | cons s segs ih =>
    obtain ⟨tl, ps, htl, hps, hpl, hlen, hparse⟩ := ih (fun x hx => hvalid x (by simp [hx]))
    obtain ⟨m, d, hp, hm, hd, hdl, hbody⟩ := seg_roundtrip s (hvalid s (by simp))
    refine ⟨bitsBE s.mode 4 ++ bitsBE s.data.length (width m) ++ d ++ tl, ⟨m, s.data⟩ :: ps, ?_, ?_, ?_, ?_, ?_⟩
    · simp [segsBits, hm, hw m, hd, htl]
    · simp [toPSegs_cons, hp, hps]
    · simp [hpl]
    · simp only [segCounts, List.map_cons, List.sum_cons, List.length_append, bitsBE_length, hdl, hlen]
    · intro v hv hfit rest hrest fuel hfuel
      obtain ⟨f, rfl⟩ : ∃ f, fuel = f + 1 := ⟨fuel - 1, by omega⟩
      subst hv
      rw [hm, List.append_assoc]
      exact parseSegs_header m (hfit ⟨m, s.data⟩ (by simp)) (hbody _)
        (hparse v rfl (fun p hp => hfit p (by simp [hp])) rest hrest f (by simp only [List.length_cons] at hfuel; omega))

theorem toPSegs_of_valid {segs : List Seg} (hvalid : ∀ s ∈ segs, s.Valid) : ∃ ps, toPSegs segs = some ps := by
  -- any width function will do: only the Spec view is read off
  obtain ⟨_, ps, _, hps, _⟩ := segsBits_spec (w := fun _ => .ok 0) (width := fun _ => 0) (fun _ => rfl) segs hvalid
  exact ⟨ps, hps⟩

theorem toPSegs_payload : ∀ (segs : List Seg) (ps : List Spec.PSeg), toPSegs segs = some ps →
    ps.flatMap (·.data) = segs.flatMap (·.data)
  | [], ps, h => by cases h; rfl
  | s :: segs, ps, h => by
    rw [toPSegs_cons, toPSeg] at h
    cases hm : Spec.Mode.ofIndicator s.mode <;> rw [hm] at h
    · cases h
    · cases hps : toPSegs segs <;> rw [hps] at h <;> cases h
      simp only [List.flatMap_cons, toPSegs_payload segs _ hps]

theorem streamBits_cons (v : Nat) (p : Spec.PSeg) (ps : List Spec.PSeg) :
    Spec.streamBits v (segCounts (p :: ps)) =
      4 + Spec.countWidth v p.mode + Spec.bodyBits p.mode p.data.length + Spec.streamBits v (segCounts ps) := by
  simp [Spec.streamBits, segCounts]

end QR
