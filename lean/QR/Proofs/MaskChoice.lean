import QR.Proofs.Symbol
import QR.Proofs.Compile
import QR.Proofs.Penalty
import QR.Spec.MaskChoice
/-
C09, the automatic mask against the Spec: the trial symbols `best_mask_pattern` scores (`makeImpl(test = True, i)`) are
exactly the ISO candidate symbols `Spec.candidate` derived from the finished symbol alone, so `Spec.chooseMask` of that symbol
is the first arg-min of the code's scores (`chooseMask_of_trials`); that it is the mask a compile records is `Props.C09_chooseMask`.
-/
namespace QR.MaskChoice

/-- with `test = true` every format / version / dark-module cell is written light -/
theorem infoCell_test (v level mask r c : Nat) (b : Bool)
    (h : Spec.infoCell v level mask true r c = some b) : b = false := by
  unfold Spec.infoCell at h
  simp only [Bool.not_true, Bool.false_and] at h
  grind

/-- the information cells are the format, version and dark-module areas, in the order `Spec.candidate` lists them -/
theorem infoCell_isSome_iff (v level mask : Nat) (h1 : 1 ≤ v) (test : Bool) (r c : Nat)
    (hr : r < Spec.size v) (hc : c < Spec.size v) :
    (Spec.infoCell v level mask test r c).isSome = true ↔
      (Spec.inFormat (Spec.size v) r c || Spec.inVersion v (Spec.size v) r c ||
        Spec.isDarkModule (Spec.size v) r c) = true := by
  rw [GeoB.infoCell_isSome_iff v level mask h1 test r c hr hc, Bool.or_eq_true, Bool.or_eq_true, or_assoc]
  exact or_congr_right or_comm

theorem trial_blank {v level mask : Nat} {data : List Nat} {M : Model.Mat}
    (h1 : 1 ≤ v) (hl : level < 4) (h : Model.makeImpl v level true mask data = .ok M)
    (r c : Nat) (hr : r < Spec.size v) (hc : c < Spec.size v)
    (ha : (Spec.inFormat (Spec.size v) r c || Spec.inVersion v (Spec.size v) r c ||
      Spec.isDarkModule (Spec.size v) r c) = true) :
    M.get r c = some false := by
  have hs := (infoCell_isSome_iff v level mask h1 true r c hr hc).mpr ha
  cases hb : Spec.infoCell v level mask true r c with
  | none => rw [hb] at hs; cases hs
  | some b =>
    have := infoCell_test v level mask r c b hb
    subst this
    exact (Sym.makeImpl_of_ok h1 hl h).info r c false hr hc hb

/-- cell form: inside the symbol, the trial symbol for mask `i` holds at every cell what the Spec's candidate
    prescribes from the final symbol built with mask `m`: information areas light, other function modules as in the final
    symbol, data modules re-masked from `m` to `i` -/
theorem trial_cell {v level m i : Nat} {data : List Nat} {M Mi : Model.Mat}
    (h1 : 1 ≤ v) (hl : level < 4) (hM : Model.makeImpl v level false m data = .ok M)
    (hMi : Model.makeImpl v level true i data = .ok Mi)
    (r c : Nat) (hr : r < Spec.size v) (hc : c < Spec.size v) :
    (Mi.get r c).getD false =
      if (Spec.inFormat (Spec.size v) r c || Spec.inVersion v (Spec.size v) r c ||
          Spec.isDarkModule (Spec.size v) r c) = true then false
      else if Spec.isFunction v r c = true then (M.get r c).getD false
      else xor (xor ((M.get r c).getD false) (Spec.maskCond m r c)) (Spec.maskCond i r c) := by
  have hB := Sym.makeImpl_of_ok h1 hl hM
  have hBi := Sym.makeImpl_of_ok h1 hl hMi
  by_cases ha : (Spec.inFormat (Spec.size v) r c || Spec.inVersion v (Spec.size v) r c ||
      Spec.isDarkModule (Spec.size v) r c) = true
  · rw [if_pos ha, trial_blank h1 hl hMi r c hr hc ha]
    rfl
  · rw [if_neg ha]
    by_cases hf : Spec.isFunction v r c = true
    · rw [if_pos hf]
      -- a function module outside the information areas is a cell of the blank matrix
      have hb : (Spec.blankCell v r c).isSome = true := by
        rcases (Sym.isFunction_iff v level i h1 true r c hr hc).mp hf with hb | hinf
        · exact hb
        · exact absurd ((infoCell_isSome_iff v level i h1 true r c hr hc).mp hinf) ha
      cases hbc : Spec.blankCell v r c with
      | none => rw [hbc] at hb; cases hb
      | some b =>
        rw [hB.blank r c b hr hc hbc, hBi.blank r c b hr hc hbc]
    · rw [if_neg hf]
      have hf' : Spec.isFunction v r c = false := Bool.eq_false_iff.mpr hf
      obtain ⟨k, hk, e⟩ := List.getElem_of_mem (GeoC.mem_zigzag_of_not_isFunction hr hc hf')
      rw [hB.cell k hk r c e hf', hBi.cell k hk r c e hf']
      simp only [Option.getD_some, Bool.xor_assoc, Bool.xor_self, Bool.xor_false]

theorem trial_candidate {v level m i : Nat} {data : List Nat} {M Mi : Model.Mat}
    (h1 : 1 ≤ v) (hl : level < 4) (hM : Model.makeImpl v level false m data = .ok M)
    (hMi : Model.makeImpl v level true i data = .ok Mi)
    {S : Spec.Sym} (hS : GeoC.Shows S (Spec.size v) M) :
    Mi.toBMat = Spec.candidate S v m i := by
  obtain ⟨hSn, hSg⟩ := hS
  rw [Model.Mat.toBMat_eq (Sym.makeImpl_of_ok h1 hl hMi).shape]
  unfold Spec.candidate
  rw [hSn]
  apply List.map_congr_left
  intro r hr
  apply List.map_congr_left
  intro c hc
  have hr' := List.mem_range.mp hr
  have hc' := List.mem_range.mp hc
  rw [trial_cell h1 hl hM hMi r c hr' hc', hSg r c hr' hc']

theorem trial_score {v level m i : Nat} {data : List Nat} {M Mi : Model.Mat}
    (h1 : 1 ≤ v) (hl : level < 4) (hM : Model.makeImpl v level false m data = .ok M)
    (hMi : Model.makeImpl v level true i data = .ok Mi)
    {S : Spec.Sym} (hS : GeoC.Shows S (Spec.size v) M) :
    Model.lostPoint Mi.toBMat = Spec.penalty (Spec.candidate S v m i) := by
  obtain ⟨hlen, hrow⟩ := Model.Mat.toBMat_shape (Sym.makeImpl_of_ok h1 hl hMi).shape
  rw [Proofs.Penalty.lostPoint_eq_penalty Mi.toBMat (Spec.size v) (by unfold Spec.size; omega) hlen hrow,
    trial_candidate h1 hl hM hMi hS]

/-- the ISO choice computed from the final symbol alone is the first arg-min of the code's `lost_point`
    over the eight trial symbols -/
theorem chooseMask_of_trials {v level m : Nat} {data : List Nat} {M : Model.Mat}
    (h1 : 1 ≤ v) (hl : level < 4) (hM : Model.makeImpl v level false m data = .ok M)
    {Ms : Nat → Model.Mat} (hMs : ∀ i, i < 8 → Model.makeImpl v level true i data = .ok (Ms i))
    {S : Spec.Sym} (hS : GeoC.Shows S (Spec.size v) M) :
    Spec.chooseMask S v m = Spec.argminFirst 8 fun i => Model.lostPoint (Ms i).toBMat := by
  unfold Spec.chooseMask
  apply Proofs.argminFirst_congr
  intro i hi
  exact (trial_score h1 hl hM (hMs i hi) hS).symm

end QR.MaskChoice
