import QR.Proofs.GeomDefs
import QR.Model.Compile
/-
Generic lemmas about the matrix primitives of QR/Model/Matrix.lean (`Mat.get`, `Mat.set`, `Mat.setI`, `Mat.empty`), the
Boolean view `Mat.toBMat` (QR/Model/Compile.lean), and a small calculus of "painting" steps used by the geometry proofs
(C04, C05, C01).
-/
namespace QR.Model

theorem Mat.get_eq (m : Mat) (r c : Nat) : m.get r c = (m[r]?.getD #[])[c]?.getD none := by
  simp only [Mat.get, Array.getD_eq_getD_getElem?]

theorem matShape_row {m : Mat} {n : Nat} (h : MatShape m n) {r : Nat} (hr : r < n) :
    ∃ row, m[r]? = some row ∧ row.size = n := by
  obtain ⟨hs, hrow⟩ := h
  have hr' : r < m.size := by omega
  refine ⟨m[r], Array.getElem?_eq_getElem hr', ?_⟩
  have := hrow r hr
  simpa [Array.getD_eq_getD_getElem?, Array.getElem?_eq_getElem hr'] using this

theorem matShape_empty (n : Nat) : MatShape (Mat.empty n) n := by
  refine ⟨by simp [Mat.empty], fun i hi => ?_⟩
  simp [Mat.empty, Array.getD_eq_getD_getElem?, hi]

theorem Mat.get_empty (n r c : Nat) : (Mat.empty n).get r c = none := by
  simp only [Mat.get_eq, Mat.empty, Array.getElem?_replicate]
  by_cases hr : r < n
  · by_cases hc : c < n <;> simp [hr, hc]
  · simp [hr]

theorem Mat.get_outside {m : Mat} {n : Nat} (h : MatShape m n) {r c : Nat} (ho : n ≤ r ∨ n ≤ c) :
    m.get r c = none := by
  rw [Mat.get_eq]
  by_cases hr : r < n
  · obtain ⟨row, h1, h2⟩ := matShape_row h hr
    have hc : row.size ≤ c := by omega
    simp [h1, Array.getElem?_eq_none hc]
  · have : m.size ≤ r := by have := h.1; omega
    simp [Array.getElem?_eq_none this]

/-- no bounds on `r`, `c`: out of range `set` is the identity -/
theorem matShape_set {m : Mat} {n : Nat} (h : MatShape m n) {r c : Nat} {x : Option Bool} :
    MatShape (m.set r c x) n := by
  refine ⟨by simp [Mat.set, h.1], fun i hi => ?_⟩
  obtain ⟨row, h1, h2⟩ := matShape_row h hi
  simp only [Mat.set, Array.getD_eq_getD_getElem?, Array.getElem?_modify, h1]
  by_cases hri : r = i <;> simp [hri, h2]

theorem Mat.get_set {m : Mat} {n : Nat} (h : MatShape m n) (r c : Nat) (x : Option Bool) (r' c' : Nat) :
    (m.set r c x).get r' c' = if r' = r ∧ c' = c ∧ r < n ∧ c < n then x else m.get r' c' := by
  simp only [Mat.get_eq, Mat.set, Array.getElem?_modify]
  by_cases hrr : r = r'
  · subst hrr
    by_cases hr : r < n
    · obtain ⟨row, h1, h2⟩ := matShape_row h hr
      simp only [h1, if_true, Option.map_some, Option.getD_some, Array.getElem?_setIfInBounds, h2, hr, true_and]
      by_cases hcc : c = c'
      · subst hcc
        by_cases hc : c < n
        · simp [hc]
        · have : row.size ≤ c := by omega
          simp [hc, Array.getElem?_eq_none this]
      · have : ¬ c' = c := fun h => hcc h.symm
        simp [hcc, this]
    · have : m.size ≤ r := by have := h.1; omega
      simp [Array.getElem?_eq_none this, hr]
  · have : ¬ r' = r := fun h => hrr h.symm
    simp [hrr, this]

theorem Mat.get_set_in {m : Mat} {n : Nat} (h : MatShape m n) {r c : Nat} {x : Option Bool} {r' c' : Nat}
    (hr : r' < n) (hc : c' < n) :
    (m.set r c x).get r' c' = if r' = r ∧ c' = c then x else m.get r' c' := by
  rw [Mat.get_set h]
  by_cases h1 : r' = r ∧ c' = c
  · obtain ⟨rfl, rfl⟩ := h1; simp [hr, hc]
  · have : ¬ (r' = r ∧ c' = c ∧ r < n ∧ c < n) := fun h => h1 ⟨h.1, h.2.1⟩
    simp [h1, this]

theorem Mat.get_set_self {m : Mat} {n : Nat} (h : MatShape m n) {r c : Nat} (hr : r < n) (hc : c < n)
    (x : Option Bool) : (m.set r c x).get r c = x := by
  rw [Mat.get_set h]; simp [hr, hc]

theorem Mat.get_set_ne {m : Mat} {n : Nat} (h : MatShape m n) {r c r' c' : Nat} (hne : (r', c') ≠ (r, c))
    (x : Option Bool) : (m.set r c x).get r' c' = m.get r' c' := by
  rw [Mat.get_set h]
  have : ¬ (r' = r ∧ c' = c ∧ r < n ∧ c < n) := fun ⟨a, b, _⟩ => hne (by rw [a, b])
  simp [this]

theorem matShape_setI {m : Mat} {n : Nat} (h : MatShape m n) {r c : Int} {x : Bool} :
    MatShape (m.setI n r c x) n := by
  unfold Mat.setI
  split
  · exact h
  · exact matShape_set h

theorem Mat.get_setI {m : Mat} {n : Nat} (h : MatShape m n) (r c : Int) (x : Bool) (r' c' : Nat) :
    (m.setI n r c x).get r' c' =
      if (r' : Int) = r ∧ (c' : Int) = c ∧ r' < n ∧ c' < n then some x else m.get r' c' := by
  unfold Mat.setI
  split
  · next hout =>
    have : ¬ ((r' : Int) = r ∧ (c' : Int) = c ∧ r' < n ∧ c' < n) := by omega
    simp [this]
  · next hin =>
    rw [Mat.get_set h]
    have : (r' = r.toNat ∧ c' = c.toNat ∧ r.toNat < n ∧ c.toNat < n) ↔
        ((r' : Int) = r ∧ (c' : Int) = c ∧ r' < n ∧ c' < n) := by omega
    simp only [this]

/-! ### `toBMat`: the Boolean matrix handed to `lost_point` -/

theorem Mat.toBMat_eq {M : Mat} {n : Nat} (hs : MatShape M n) :
    M.toBMat = (List.range n).map fun r => (List.range n).map fun c => (M.get r c).getD false := by
  have hsize := hs.1
  apply List.ext_getElem
  · simp [Mat.toBMat, hsize]
  · intro r hr1 hr2
    have hr : r < n := by simpa using hr2
    obtain ⟨row, hrow, hrs⟩ := matShape_row hs hr
    have hrM : r < M.size := by omega
    have hrow' : M[r] = row := by
      rw [Array.getElem?_eq_getElem hrM] at hrow
      exact Option.some.inj hrow
    simp only [Mat.toBMat, List.getElem_map, List.getElem_range, Array.getElem_toList, hrow']
    apply List.ext_getElem
    · simp [hrs]
    · intro c hc1 hc2
      have hc : c < n := by simpa using hc2
      have hcR : c < row.size := by omega
      simp only [List.getElem_map, List.getElem_range, Array.getElem_toList, Mat.get_eq, hrow,
        Option.getD_some, Array.getElem?_eq_getElem hcR]

theorem Mat.toBMat_shape {M : Mat} {n : Nat} (hs : MatShape M n) :
    M.toBMat.length = n ∧ ∀ row ∈ M.toBMat, row.length = n := by
  rw [Mat.toBMat_eq hs]
  refine ⟨by simp, ?_⟩
  intro row hrow
  obtain ⟨r, _, rfl⟩ := List.mem_map.mp hrow
  simp

/-! ### painting steps

`Paints n f P g`: on n x n matrices `f` keeps the shape, overwrites every cell satisfying `P` with `g r c` and leaves
all other cells alone.  Because the value `g r c` depends on the cell only, painting steps compose without any
disjointness side condition. -/

def Paints (n : Nat) (f : Mat → Mat) (P : Nat → Nat → Prop) (g : Nat → Nat → Option Bool) : Prop :=
  ∀ m, MatShape m n → MatShape (f m) n ∧ ∀ r c, r < n → c < n →
    (P r c → (f m).get r c = g r c) ∧ (¬ P r c → (f m).get r c = m.get r c)

theorem Paints.shape {n f P g} (h : Paints n f P g) {m : Mat} (hm : MatShape m n) : MatShape (f m) n := (h m hm).1

theorem Paints.get_in {n f P g} (h : Paints n f P g) {m : Mat} (hm : MatShape m n) {r c : Nat}
    (hr : r < n) (hc : c < n) (hp : P r c) : (f m).get r c = g r c := ((h m hm).2 r c hr hc).1 hp

theorem Paints.get_out {n f P g} (h : Paints n f P g) {m : Mat} (hm : MatShape m n) {r c : Nat}
    (hr : r < n) (hc : c < n) (hp : ¬ P r c) : (f m).get r c = m.get r c := ((h m hm).2 r c hr hc).2 hp

theorem Paints.get_ite {n f P g} (h : Paints n f P g) {m : Mat} (hm : MatShape m n) {r c : Nat}
    (hr : r < n) (hc : c < n) [Decidable (P r c)] : (f m).get r c = if P r c then g r c else m.get r c := by
  split
  · next hp => exact h.get_in hm hr hc hp
  · next hp => exact h.get_out hm hr hc hp

theorem Paints.get_option {n f P} {G : Nat → Nat → Option Bool} (h : Paints n f P G)
    (hP : ∀ r c, r < n → c < n → (P r c ↔ (G r c).isSome = true)) {m : Mat} (hm : MatShape m n) {r c : Nat}
    (hr : r < n) (hc : c < n) :
    (f m).get r c = match G r c with
      | some b => some b
      | none => m.get r c := by
  by_cases hp : P r c
  · rw [h.get_in hm hr hc hp]
    have := (hP r c hr hc).mp hp
    cases hG : G r c with
    | some b => rfl
    | none => rw [hG] at this; cases this
  · rw [h.get_out hm hr hc hp]
    cases hG : G r c with
    | none => rfl
    | some b => exact (hp ((hP r c hr hc).mpr (by rw [hG]; rfl))).elim

theorem Paints.id (n : Nat) (g : Nat → Nat → Option Bool) : Paints n (fun m => m) (fun _ _ => False) g :=
  fun _ hm => ⟨hm, fun _ _ _ _ => ⟨fun h => h.elim, fun _ => rfl⟩⟩

theorem Paints.congr {n f P P' g g'} (h : Paints n f P g)
    (hP : ∀ r c, r < n → c < n → (P' r c ↔ P r c)) (hg : ∀ r c, r < n → c < n → P r c → g r c = g' r c) :
    Paints n f P' g' := by
  intro m hm
  refine ⟨h.shape hm, fun r c hr hc => ⟨fun hp => ?_, fun hp => ?_⟩⟩
  · have hp' := (hP r c hr hc).1 hp
    rw [h.get_in hm hr hc hp', hg r c hr hc hp']
  · exact h.get_out hm hr hc (fun hp' => hp ((hP r c hr hc).2 hp'))

theorem Paints.comp {n f1 f2 P1 P2 g} (h1 : Paints n f1 P1 g) (h2 : Paints n f2 P2 g) :
    Paints n (fun m => f2 (f1 m)) (fun r c => P1 r c ∨ P2 r c) g := by
  intro m hm
  have hm1 := h1.shape hm
  refine ⟨h2.shape hm1, fun r c hr hc => ⟨fun hp => ?_, fun hp => ?_⟩⟩
  · by_cases hp2 : P2 r c
    · exact h2.get_in hm1 hr hc hp2
    · rw [h2.get_out hm1 hr hc hp2]
      exact h1.get_in hm hr hc (hp.resolve_right hp2)
  · rw [h2.get_out hm1 hr hc (fun h => hp (Or.inr h))]
    exact h1.get_out hm hr hc (fun h => hp (Or.inl h))

theorem Paints.set {n : Nat} {g : Nat → Nat → Option Bool} (r c : Nat) (x : Option Bool)
    (hg : r < n → c < n → g r c = x) :
    Paints n (fun m => m.set r c x) (fun r' c' => r' = r ∧ c' = c) g := by
  intro m hm
  refine ⟨matShape_set hm, fun r' c' hr hc => ⟨fun hp => ?_, fun hp => ?_⟩⟩
  · obtain ⟨rfl, rfl⟩ := hp
    rw [Mat.get_set_in hm hr hc, if_pos ⟨rfl, rfl⟩, hg hr hc]
  · rw [Mat.get_set_in hm hr hc, if_neg hp]

theorem Paints.setI {n : Nat} {g : Nat → Nat → Option Bool} (r c : Int) (x : Bool)
    (hg : ∀ r' c' : Nat, r' < n → c' < n → (r' : Int) = r → (c' : Int) = c → g r' c' = some x) :
    Paints n (fun m => m.setI n r c x) (fun r' c' => (r' : Int) = r ∧ (c' : Int) = c) g := by
  intro m hm
  refine ⟨matShape_setI hm, fun r' c' hr hc => ⟨fun hp => ?_, fun hp => ?_⟩⟩
  · rw [Mat.get_setI hm, if_pos ⟨hp.1, hp.2, hr, hc⟩, hg r' c' hr hc hp.1 hp.2]
  · rw [Mat.get_setI hm, if_neg fun h => hp ⟨h.1, h.2.1⟩]

theorem Paints.foldl {ι : Type} {n : Nat} {g : Nat → Nat → Option Bool} {f : Mat → ι → Mat}
    {P : ι → Nat → Nat → Prop} (l : List ι) (h : ∀ i ∈ l, Paints n (fun m => f m i) (P i) g) :
    Paints n (fun m => l.foldl f m) (fun r c => ∃ i ∈ l, P i r c) g := by
  induction l with
  | nil => exact (Paints.id n g).congr (by simp) (by simp)
  | cons i l ih =>
    have hi := h i (by simp)
    have hl := ih (fun j hj => h j (by simp [hj]))
    exact (hi.comp hl).congr (by simp) (fun _ _ _ _ _ => rfl)

theorem Paints.foldl₂ {ι κ : Type} {n : Nat} {g : Nat → Nat → Option Bool} {f : Mat → ι → κ → Mat}
    {P : ι → κ → Nat → Nat → Prop} (l₁ : List ι) (l₂ : List κ)
    (h : ∀ i ∈ l₁, ∀ j ∈ l₂, Paints n (fun m => f m i j) (P i j) g) :
    Paints n (fun m => l₁.foldl (fun m i => l₂.foldl (fun m j => f m i j) m) m)
      (fun r c => ∃ i ∈ l₁, ∃ j ∈ l₂, P i j r c) g :=
  Paints.foldl l₁ fun i hi => Paints.foldl l₂ (h i hi)

/-- a loop of writes `modules[pos i] = val i` whose values agree with a cell-determined `G` -/
theorem Paints.range_set {n : Nat} {G : Nat → Nat → Option Bool} (pos : Nat → Nat × Nat) {val : Nat → Option Bool}
    (k : Nat) (h : ∀ i, i < k → G (pos i).1 (pos i).2 = val i) :
    Paints n (fun m => (List.range k).foldl (fun m i => m.set (pos i).1 (pos i).2 (val i)) m)
      (fun r c => ∃ i, i < k ∧ (r, c) = pos i) G := by
  refine (Paints.foldl (List.range k) (P := fun i r c => r = (pos i).1 ∧ c = (pos i).2)
    fun i hi => Paints.set _ _ _ fun _ _ => h i (List.mem_range.mp hi)).congr ?_ (fun _ _ _ _ _ => rfl)
  intro r c _ _
  constructor
  · rintro ⟨i, hi, h⟩; exact ⟨i, List.mem_range.mpr hi, by rw [← h], by rw [← h]⟩
  · rintro ⟨i, hi, h1, h2⟩; exact ⟨i, List.mem_range.mp hi, Prod.ext h1 h2⟩

end QR.Model

namespace QR.GeoC
open QR.Model

theorem get_oob {m : Mat} {n : Nat} (h : MatShape m n) {r c : Nat} (hrc : n ≤ r ∨ n ≤ c) : m.get r c = none :=
  Mat.get_outside h hrc

theorem shape_empty (n : Nat) : MatShape (Mat.empty n) n := matShape_empty n

end QR.GeoC
