import QR.Model.Penalty
import QR.Spec.Penalty
import QR.Proofs.Lists
/-
C08 - `Model.lostPoint` (python's `util.lost_point`) equals the ISO penalty `Spec.penalty`, rule by rule: first rule 3 on
one line (namespace `Rule3`), then the four rules on a matrix, in their order, and their sum (namespace `Penalty`).
-/
namespace QR.Proofs.Rule3
open QR.Model

theorem windows3_short (l : List Bool) (h : l.length < 11) : Spec.windows3 l = 0 := by
  induction l with
  | nil => rfl
  | cons x t ih =>
    simp only [List.length_cons] at h
    have h1 : ((x :: t).take 11).length < 11 := by simp [List.length_take]; omega
    have e1 : (x :: t).take 11 ≠ Spec.pat1 := fun e => by rw [e] at h1; simp [Spec.pat1] at h1
    have e2 : (x :: t).take 11 ≠ Spec.pat2 := fun e => by rw [e] at h1; simp [Spec.pat2] at h1
    rw [Spec.windows3, if_neg (not_or.mpr ⟨e1, e2⟩), ih (by omega)]

/-- `cond3` is the conjunction of the eleven cell equations of `pat1`, or of `pat2`, in another order -/
theorem cond3_iff (a0 a1 a2 a3 a4 a5 a6 a7 a8 a9 a10 : Bool) :
    cond3 a0 a1 a2 a3 a4 a5 a6 a7 a8 a9 a10 = true ↔
      [a0,a1,a2,a3,a4,a5,a6,a7,a8,a9,a10] = Spec.pat1 ∨ [a0,a1,a2,a3,a4,a5,a6,a7,a8,a9,a10] = Spec.pat2 := by
  simp only [cond3, Spec.pat1, Spec.pat2, List.cons.injEq, true_and, Bool.and_eq_true, Bool.or_eq_true,
    Bool.not_eq_true', and_or_left, and_assoc, and_left_comm, and_comm]

/-- both patterns have a light module at offset 9, so no window starts right before a dark module at offset 10 -/
theorem skip_sound : ∀ a1 a2 a3 a4 a5 a6 a7 a8 a9 a11 : Bool,
    cond3 a1 a2 a3 a4 a5 a6 a7 a8 a9 true a11 = false := by
  intros; simp [cond3]

theorem windows3_cons11 (a0 a1 a2 a3 a4 a5 a6 a7 a8 a9 a10 : Bool) (t : List Bool) :
    Spec.windows3 (a0::a1::a2::a3::a4::a5::a6::a7::a8::a9::a10::t) =
      (if cond3 a0 a1 a2 a3 a4 a5 a6 a7 a8 a9 a10 then 1 else 0) + Spec.windows3 (a1::a2::a3::a4::a5::a6::a7::a8::a9::a10::t) := by
  rw [Spec.windows3]
  simp only [cond3_iff]; rfl

theorem windows3_after_dark (a1 a2 a3 a4 a5 a6 a7 a8 a9 : Bool) (t : List Bool) :
    Spec.windows3 (a1::a2::a3::a4::a5::a6::a7::a8::a9::true::t) = Spec.windows3 (a2::a3::a4::a5::a6::a7::a8::a9::true::t) := by
  cases t with
  | nil => rw [windows3_short _ (by simp), windows3_short _ (by simp)]
  | cons a11 t => rw [windows3_cons11, skip_sound]; simp

/-- a list that is not eleven conses is short (the fall-through case of `l3scan`) -/
theorem short_of_not_cons11 {l : List Bool}
    (h : ∀ a0 a1 a2 a3 a4 a5 a6 a7 a8 a9 a10 t, l = a0::a1::a2::a3::a4::a5::a6::a7::a8::a9::a10::t → False) :
    l.length < 11 :=
  match l, h with
  | [], _ | [_], _ | [_,_], _ | [_,_,_], _ | [_,_,_,_], _ | [_,_,_,_,_], _ | [_,_,_,_,_,_], _
  | [_,_,_,_,_,_,_], _ | [_,_,_,_,_,_,_,_], _ | [_,_,_,_,_,_,_,_,_], _ | [_,_,_,_,_,_,_,_,_,_], _ => by simp
  | a0::a1::a2::a3::a4::a5::a6::a7::a8::a9::a10::t, h => absurd rfl (h a0 a1 a2 a3 a4 a5 a6 a7 a8 a9 a10 t)

/-- rule 3, every line of every length: the scanner with the Horspool skip scores 40 per ISO window -/
theorem rule3_line (l : List Bool) : l3scan l = 40 * Spec.windows3 l := by
  induction l using l3scan.induct with
  | case1 a0 a1 a2 a3 a4 a5 a6 a7 a8 a9 a10 t ih1 ih2 =>
    rw [l3scan, windows3_cons11]
    cases a10 with
    | true =>
      -- position +10 is dark, the scanner skips one start: no window starts there (`windows3_after_dark`)
      rw [if_pos rfl, ih1, windows3_after_dark]
      split <;> omega
    | false =>
      rw [if_neg Bool.false_ne_true, ih2]
      split <;> omega
  | case2 l h =>
    rw [l3scan, windows3_short l (short_of_not_cons11 h)]
    exact h

end QR.Proofs.Rule3

namespace QR.Proofs.Penalty
open QR.Model

theorem columns_eq_cols (M : BMat) (n : Nat) : columns M n = Spec.cols M n := rfl

/-! ### rule 1 -/

def bump (len : Nat) : List Nat → List Nat
  | [] => []
  | k :: ks => (k + len) :: ks

theorem runLengths_cons_cons (a b : Bool) (t : List Bool) {k : Nat} {ks : List Nat} (h : Spec.runLengths (b :: t) = k :: ks) :
    Spec.runLengths (a :: b :: t) = if a = b then (k + 1) :: ks else 1 :: k :: ks := by
  rw [Spec.runLengths, h]

theorem runLengths_cons (x : Bool) (t : List Bool) : ∃ k ks, Spec.runLengths (x :: t) = k :: ks := by
  induction t generalizing x with
  | nil => exact ⟨1, [], rfl⟩
  | cons y t ih =>
    obtain ⟨k, ks, h⟩ := ih y
    rw [runLengths_cons_cons x y t h]
    by_cases hxy : x = y
    · exact ⟨k + 1, ks, if_pos hxy⟩
    · exact ⟨1, k :: ks, if_neg hxy⟩

/-- the scanner holds the current run's length in `len`: with `len` cells of colour `prev` already seen before `prev :: xs`,
    it records the runs of `prev :: xs`, the first one longer by `len`, that reach 5 -/
theorem runScan_eq (prev : Bool) (len : Nat) (xs : List Bool) :
    runScan prev (len + 1) xs = (bump len (Spec.runLengths (prev :: xs))).filter fun L => decide (L ≥ 5) := by
  induction xs generalizing prev len with
  | nil => simp only [runScan, Spec.runLengths, bump, Nat.add_comm 1 len]; by_cases h : len + 1 ≥ 5 <;> simp [h]
  | cons x xs ih =>
    obtain ⟨k, ks, hk⟩ := runLengths_cons x xs
    rw [runScan, runLengths_cons_cons prev x xs hk]
    by_cases hx : x = prev
    · subst hx
      rw [if_pos rfl, if_pos rfl, ih, hk]
      simp only [bump, Nat.add_assoc, Nat.add_comm 1 len]
    · rw [if_neg hx, if_neg (show ¬ prev = x from fun e => hx e.symm), ih x 0, hk]
      simp only [bump, Nat.add_zero, Nat.add_comm 1 len]
      by_cases h : len + 1 ≥ 5 <;> simp [h]

theorem lineRuns_eq_filter (l : List Bool) :
    lineRuns l = (Spec.runLengths l).filter fun L => decide (L ≥ 5) := by
  cases l with
  | nil => rfl
  | cons x xs =>
    obtain ⟨k, ks, hk⟩ := runLengths_cons x xs
    rw [lineRuns, runScan, if_pos rfl, runScan_eq, hk]; rfl

theorem runLengths_sum (l : List Bool) : (Spec.runLengths l).sum = l.length := by
  induction l with
  | nil => rfl
  | cons x t ih =>
    cases t with
    | nil => rfl
    | cons y t =>
      obtain ⟨m, ms, hm⟩ := runLengths_cons y t
      rw [hm] at ih
      rw [runLengths_cons_cons x y t hm]
      simp only [List.sum_cons, List.length_cons] at ih ⊢
      split
      · rw [List.sum_cons]
        omega
      · rw [List.sum_cons, List.sum_cons]
        omega

theorem lineRuns_score (l : List Bool) : ((lineRuns l).map fun L => L - 2).sum = Spec.n1Line l := by
  rw [lineRuns_eq_filter, Spec.n1Line]
  induction Spec.runLengths l with
  | nil => rfl
  | cons k ks ih =>
    by_cases h : k ≥ 5
    · rw [List.filter_cons_of_pos (by simpa using h)]
      simp only [List.map_cons, List.sum_cons, ih, if_pos h]
    · rw [List.filter_cons_of_neg (by simpa using h)]
      simp only [List.map_cons, List.sum_cons, ih, if_neg h, Nat.zero_add]

theorem hist_single (w : Nat → Nat) (a x m : Nat) :
    ((List.range m).map fun k => (if x = k + a then 1 else 0) * w (k + a)).sum =
      if a ≤ x ∧ x < m + a then w x else 0 := by
  induction m with
  | zero =>
    rw [if_neg (by omega)]
    rfl
  | succ m ih =>
    rw [List.range_succ, List.map_append, List.sum_append, ih]
    simp only [List.map_cons, List.map_nil, List.sum_cons, List.sum_nil]
    by_cases h1 : x = m + a
    · subst h1
      rw [if_neg (by omega), if_pos rfl, if_pos (by omega)]
      omega
    · rw [if_neg h1]
      by_cases h2 : a ≤ x ∧ x < m + a
      · rw [if_pos h2, if_pos ⟨h2.1, by omega⟩]
        omega
      · rw [if_neg h2, if_neg (by omega)]
        omega

/-- a histogram over `a .. a + m - 1` summed with weights `w` is the plain sum of `w` over the values, when all lie in that range -/
theorem hist_sum (w : Nat → Nat) (a m : Nat) (runs : List Nat) (h : ∀ x ∈ runs, a ≤ x ∧ x < m + a) :
    ((List.range m).map fun k => runs.count (k + a) * w (k + a)).sum = (runs.map w).sum := by
  induction runs with
  | nil => simp only [List.count_nil, Nat.zero_mul, List.map_const', List.sum_replicate_nat, Nat.mul_zero, List.map_nil, List.sum_nil]
  | cons x t ih =>
    have e : ∀ k, (x :: t).count (k + a) * w (k + a) =
        t.count (k + a) * w (k + a) + (if x = k + a then 1 else 0) * w (k + a) := by
      intro k
      rw [List.count_cons, Nat.add_mul]
      congr 2
      by_cases hk : x = k + a <;> simp [hk]
    rw [List.map_congr_left (fun k _ => e k), sum_map_add, ih (fun y hy => h y (List.mem_cons_of_mem _ hy)),
      hist_single, if_pos (h x List.mem_cons_self)]
    simp only [List.map_cons, List.sum_cons]
    omega

theorem lines_length (M : BMat) (n : Nat) (hlen : M.length = n) (hrow : ∀ row ∈ M, row.length = n) :
    ∀ l ∈ M ++ columns M n, l.length = n := by
  intro l hl
  rcases List.mem_append.mp hl with h | h
  · exact hrow l h
  · simp only [columns, List.mem_map] at h
    obtain ⟨c, _, rfl⟩ := h
    simp [hlen]

/-- every run the Python loop records on an `n × n` matrix is between 5 and `n` (so the histogram `container` has a cell
    for it, and the sum over `range(5, n + 1)` sees it) -/
theorem runs_bounds (M : BMat) (n : Nat) (hlen : M.length = n) (hrow : ∀ row ∈ M, row.length = n) :
    ∀ x ∈ (M ++ columns M n).flatMap lineRuns, 5 ≤ x ∧ x ≤ n := by
  intro x hx
  obtain ⟨l, hlm, hxl⟩ := List.mem_flatMap.mp hx
  rw [lineRuns_eq_filter, List.mem_filter] at hxl
  rw [← lines_length M n hlen hrow l hlm, ← runLengths_sum l]
  exact ⟨by simpa using hxl.2, le_sum_of_mem hxl.1⟩

theorem level1_eq (M : BMat) (n : Nat) (hlen : M.length = n) (hrow : ∀ row ∈ M, row.length = n) :
    level1 M n = Spec.N1 M n := by
  unfold level1 Spec.N1
  rw [columns_eq_cols]
  simp only []
  rw [hist_sum (fun L => L - 2) 5 (n + 1 - 5), sum_flatMap]
  · rw [List.map_congr_left fun l _ => lineRuns_score l]
  · intro x hx
    have := runs_bounds M n hlen hrow x hx
    omega

/-! ### rule 2 -/

def headsDiffer : List Bool → List Bool → Prop
  | a :: _, c :: _ => a ≠ c
  | _, _ => True

/-- one column of the scanner: a monochrome block scores unless a skip is pending, and a skip becomes pending when none
    is pending and the right-hand column is not monochrome -/
theorem l2scan_cons_cons (skip a b c d : Bool) (ta tc : List Bool) :
    l2scan skip (a :: b :: ta) (c :: d :: tc) =
      (if skip = false ∧ a = b ∧ a = c ∧ a = d then 3 else 0) + l2scan (!skip && b != d) (b :: ta) (d :: tc) := by
  rw [l2scan]
  cases skip with
  | true => simp
  | false =>
    by_cases hbd : b = d
    · subst hbd
      by_cases hba : b = a
      · subst hba
        by_cases hbc : b = c
        · subst hbc
          simp
        · simp [hbc]
      · simp [hba, Ne.symm hba]
    · have hP : ¬ (a = b ∧ a = c ∧ a = d) := fun h => hbd (h.1.symm.trans h.2.2)
      simp [hbd, bne_iff_ne.mpr hbd, hP]

/-- invariant of the `next(iter)` skip: a skip is only pending when the current column is not monochrome, so the block it
    passes over does not count -/
theorem l2scan_eq_blocks2 (r1 r2 : List Bool) : ∀ skip : Bool, (skip = true → headsDiffer r1 r2) →
    l2scan skip r1 r2 = 3 * Spec.blocks2 r1 r2 := by
  induction r1, r2 using Spec.blocks2.induct with
  | case1 a b ta c d tc ih =>
    intro skip h
    rw [l2scan_cons_cons, Spec.blocks2, Nat.mul_add, ih _ (by simp [headsDiffer])]
    congr 1
    cases skip with
    | true =>
      have hac : a ≠ c := h rfl
      simp [hac]
    | false =>
      by_cases hP : a = b ∧ a = c ∧ a = d
      · rw [if_pos ⟨rfl, hP⟩, if_pos hP]
      · rw [if_neg (fun h => hP h.2), if_neg hP]
  | case2 r1 r2 hne =>
    intro skip _
    rw [l2scan, Spec.blocks2]
    · exact hne
    · exact hne

theorem level2_eq (M : BMat) : level2 M = Spec.N2 M := by
  fun_induction level2 M with
  | case1 r1 r2 rest ih => rw [Spec.N2, ih, l2scan_eq_blocks2 r1 r2 false (by intro h; cases h)]
  | case2 M h =>
    rw [Spec.N2]
    exact h

/-! ### rule 3 -/

theorem level3_eq (M : BMat) (n : Nat) : level3 M n = Spec.N3 M n := by
  unfold level3 Spec.N3
  rw [columns_eq_cols]
  exact sum_map_mul 40 QR.Proofs.Rule3.rule3_line

/-! ### rule 4 -/

theorem count_true_eq (row : List Bool) : row.count true = (row.filter id).length := by
  induction row with
  | nil => rfl
  | cons x t ih => cases x <;> simp [ih]

theorem darkCount_eq_dark (M : BMat) : darkCount M = Spec.dark M := by
  unfold darkCount Spec.dark
  rw [List.map_congr_left fun row _ => count_true_eq row]

theorem steps_count : ∀ q, q ≤ 10 → ((List.range 11).filter fun k => decide (k ≤ q)).length = q + 1 := by
  decide

theorem level4_eq (M : BMat) (n : Nat) (hn : 0 < n) (hd : darkCount M ≤ n * n) :
    level4 M n = Spec.N4 M n := by
  unfold level4 Spec.N4
  rw [← darkCount_eq_dark]
  have ht : 0 < n * n := Nat.mul_pos hn hn
  generalize n * n = t at *
  generalize darkCount M = d at *
  simp only []
  generalize hx : (if 20 * d ≥ 10 * t then 20 * d - 10 * t else 10 * t - 20 * d) = x
  have hx10 : x ≤ 10 * t := by rw [← hx]; split <;> omega
  have hq : x / t ≤ 10 := Nat.div_le_of_le_mul (by omega)
  have hf : ((List.range 11).filter fun k => decide (k * t ≤ x)) =
      ((List.range 11).filter fun k => decide (k ≤ x / t)) := by
    apply List.filter_congr
    intro k _
    exact decide_eq_decide.mpr (Nat.le_div_iff_mul_le ht).symm
  rw [hf, steps_count _ hq]
  omega

theorem count_le_length (row : List Bool) : row.count true ≤ row.length := List.count_le_length

theorem darkCount_le (M : BMat) (n : Nat) (hlen : M.length = n) (hrow : ∀ row ∈ M, row.length = n) :
    darkCount M ≤ n * n := by
  have : ∀ (M : BMat), (∀ row ∈ M, row.length = n) → darkCount M ≤ M.length * n := by
    intro M
    induction M with
    | nil => intro _; simp [darkCount]
    | cons r t ih =>
      intro h
      have h1 : r.count true ≤ n := by
        rw [← h r List.mem_cons_self]; exact List.count_le_length
      have h2 := ih (fun y hy => h y (List.mem_cons_of_mem _ hy))
      simp only [darkCount, List.map_cons, List.sum_cons, List.length_cons] at *
      rw [Nat.add_mul]; omega
  exact hlen ▸ this M hrow

theorem lostPoint_eq_penalty (M : BMat) (n : Nat) (hn : 1 ≤ n) (hlen : M.length = n)
    (hrow : ∀ row ∈ M, row.length = n) : lostPoint M = Spec.penalty M := by
  unfold lostPoint Spec.penalty
  simp only []
  rw [hlen, level1_eq M n hlen hrow, level2_eq, level3_eq, level4_eq M n hn (darkCount_le M n hlen hrow)]

end QR.Proofs.Penalty
