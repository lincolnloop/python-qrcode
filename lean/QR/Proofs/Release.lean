import QR.Model.Release
import QR.Spec.Release
import QR.Proofs.Lists
/-
C20, the manual-page release hook (qrcode/release.py `update_manpage`): the model (scanners `readLines`, `reSplit`,
`joinQuote`) equals the Spec (quote positions, `take`/`drop`).  Every scanner steps from one first occurrence of a
character to the next (`split_first`).  A well-formed header line is `hdr t0 f0 t1 f1 r` = `t0 "f0" t1 "f1" r` with
quote-free fields (`wf_iff_hdr`); on it both sides are computed once, hence the loop in closed form (`processLines_eq`).
Idempotence needs that the rewritten lines are what `readlines()` returns on the rewritten page: `Lines` is the shape
of a `readlines()` result, and on lists of that shape `lineSplit` inverts `flatten`.
-/
namespace QR.Proofs.Release
open QR.Model QR.Spec

/-! ### up to the first occurrence of a character -/

theorem split_first (x : Char) (s : List Char) :
    (s.takeWhile (· ≠ x) = s ∧ s.dropWhile (· ≠ x) = [] ∧ ∀ c ∈ s, c ≠ x) ∨
    ∃ t r, s = t ++ x :: r ∧ (∀ c ∈ t, c ≠ x) ∧ s.takeWhile (· ≠ x) = t ∧ s.dropWhile (· ≠ x) = x :: r := by
  have hs := List.takeWhile_append_dropWhile (p := (· ≠ x)) (l := s)
  have ht : ∀ c ∈ s.takeWhile (· ≠ x), c ≠ x := fun c hc => by
    simpa using of_mem_takeWhile hc
  cases hd : s.dropWhile (· ≠ x) with
  | nil =>
    rw [hd, List.append_nil] at hs
    exact Or.inl ⟨hs, rfl, hs ▸ ht⟩
  | cons c r =>
    have hc : c = x := by simpa using of_dropWhile_eq_cons hd
    subst hc
    exact Or.inr ⟨_, r, (hd ▸ hs).symm, ht, rfl, rfl⟩

/-! ### `readlines()` -/

theorem lineSplit_eq (n : Nat) {s : List Char} (hs : s ≠ []) : lineSplit (n + 1) s =
    match s.dropWhile (· ≠ '\n') with
    | [] => [s.takeWhile (· ≠ '\n')]
    | nl :: rest => (s.takeWhile (· ≠ '\n') ++ [nl]) :: lineSplit n rest := by
  cases s with
  | nil => exact absurd rfl hs
  | cons a s =>
    simp only [lineSplit, span_eq]
    cases (a :: s).dropWhile (· ≠ '\n') <;> rfl

theorem readLines_eq_lineSplit (fuel : Nat) (s : List Char) : readLines fuel s = lineSplit fuel s := by
  induction fuel generalizing s with
  | zero => cases s <;> rfl
  | succ n ih =>
    cases s with
    | nil => rfl
    | cons a s =>
      simp only [readLines, lineSplit_eq n (List.cons_ne_nil a s), ih]
      cases (a :: s).dropWhile (· ≠ '\n') <;> rfl

def Term (l : List Char) : Prop := ∃ b, l = b ++ ['\n'] ∧ ∀ c ∈ b, c ≠ '\n'

def Unterm (l : List Char) : Prop := l ≠ [] ∧ ∀ c ∈ l, c ≠ '\n'

/-- the shape of a `readlines()` result: terminated lines; the last one may be unterminated instead -/
def Lines : List (List Char) → Prop
  | [] => True
  | l :: r => (Term l ∧ Lines r) ∨ (Unterm l ∧ r = [])

theorem lineSplit_term (f : Nat) (b R : List Char) (hb : ∀ c ∈ b, c ≠ '\n') :
    lineSplit (f + 1) (b ++ '\n' :: R) = (b ++ ['\n']) :: lineSplit f R := by
  have hb := List.forall_mem_ne'.1 hb
  rw [lineSplit_eq f (by simp), takeWhile_ne_append_cons R hb, dropWhile_ne_append_cons R hb]

theorem lineSplit_unterm (f : Nat) {l : List Char} (h : Unterm l) : lineSplit (f + 1) l = [l] := by
  have hall : ∀ c ∈ l, decide (c ≠ '\n') = true := by simpa using h.2
  rw [lineSplit_eq f h.1, takeWhile_of_all hall, dropWhile_of_all hall]

theorem lineSplit_succ (n : Nat) (s : List Char) :
    (s = [] ∧ lineSplit (n + 1) s = []) ∨ (Unterm s ∧ lineSplit (n + 1) s = [s]) ∨
    ∃ t r, s = t ++ '\n' :: r ∧ (∀ c ∈ t, c ≠ '\n') ∧ lineSplit (n + 1) s = (t ++ ['\n']) :: lineSplit n r := by
  by_cases hs : s = []
  · exact Or.inl ⟨hs, by rw [hs, lineSplit]⟩
  · rcases split_first '\n' s with ⟨_, _, h⟩ | ⟨t, r, rfl, ht, _, _⟩
    · exact Or.inr (Or.inl ⟨⟨hs, h⟩, lineSplit_unterm n ⟨hs, h⟩⟩)
    · exact Or.inr (Or.inr ⟨t, r, rfl, ht, lineSplit_term n t r ht⟩)

theorem lines_lineSplit (fuel : Nat) (s : List Char) : Lines (lineSplit fuel s) := by
  induction fuel generalizing s with
  | zero => cases s <;> simp [lineSplit, Lines]
  | succ n ih =>
    rcases lineSplit_succ n s with ⟨_, h⟩ | ⟨hu, h⟩ | ⟨t, r, _, ht, h⟩ <;> rw [h]
    · trivial
    · exact Or.inr ⟨hu, rfl⟩
    · exact Or.inl ⟨⟨t, rfl, ht⟩, ih r⟩

theorem lines_readLines (fuel : Nat) (page : List Char) : Lines (readLines fuel page) := by
  rw [readLines_eq_lineSplit]; exact lines_lineSplit fuel page

theorem lineSplit_flatten (fuel : Nat) (s : List Char) (hf : s.length < fuel) :
    (lineSplit fuel s).flatten = s := by
  induction fuel generalizing s with
  | zero => omega
  | succ n ih =>
    rcases lineSplit_succ n s with ⟨rfl, h⟩ | ⟨_, h⟩ | ⟨t, r, rfl, _, h⟩ <;> rw [h]
    · rfl
    · simp
    · simp [ih r (by simp at hf; omega)]

theorem lineSplit_of_lines (L : List (List Char)) (hL : Lines L) (fuel : Nat) (hf : L.flatten.length < fuel) :
    lineSplit fuel L.flatten = L := by
  induction L generalizing fuel with
  | nil => cases fuel <;> simp [lineSplit]
  | cons l r ih =>
    cases fuel with
    | zero => omega
    | succ n =>
      rcases hL with ⟨⟨b, rfl, hb⟩, hr⟩ | ⟨hu, rfl⟩
      · have e : ((b ++ ['\n']) :: r).flatten = b ++ '\n' :: r.flatten := by simp
        rw [e] at hf ⊢
        have hf' : r.flatten.length < n := by
          simp only [List.length_append, List.length_cons] at hf
          omega
        rw [lineSplit_term n b _ hb, ih hr n hf']
      · simp only [List.flatten_cons, List.flatten_nil, List.append_nil]
        exact lineSplit_unterm n hu

theorem lines_iff (L : List (List Char)) :
    Lines L ↔ ∀ i (hi : i < L.length), Term L[i] ∨ (Unterm L[i] ∧ i + 1 = L.length) := by
  induction L with
  | nil => simp [Lines]
  | cons l r ih =>
    rw [Lines, ih]
    constructor
    · rintro (⟨ht, hr⟩ | ⟨hu, rfl⟩) i hi
      · cases i with
        | zero => exact Or.inl ht
        | succ j => simpa using hr j (by simpa using hi)
      · have : i = 0 := by simpa using hi
        subst this
        exact Or.inr ⟨hu, rfl⟩
    · intro h
      rcases h 0 (by simp) with ht | ⟨hu, hlen⟩
      · refine Or.inl ⟨ht, fun j hj => ?_⟩
        have := h (j + 1) (Nat.succ_lt_succ hj)
        simpa only [List.getElem_cons_succ, List.length_cons, Nat.add_right_cancel_iff] using this
      · exact Or.inr ⟨hu, by simpa using hlen⟩

theorem lines_set (L : List (List Char)) (hL : Lines L) (i : Nat) (hi : i < L.length) (new : List Char)
    (h : (Term L[i] → Term new) ∧ (Unterm L[i] → Unterm new)) : Lines (L.set i new) := by
  rw [lines_iff] at hL ⊢
  intro j hj
  simp only [List.length_set] at hj ⊢
  by_cases e : i = j
  · subst e
    rw [List.getElem_set_self]
    exact (hL i hi).imp h.1 fun ⟨hu, hl⟩ => ⟨h.2 hu, hl⟩
  · rw [List.getElem_set_ne e]
    exact hL j hj

/-! ### `re.split('"([^"]*)"', line)` and `'"'.join` -/

theorem reSplit_two (f : Nat) (t q r : List Char) (ht : ∀ c ∈ t, c ≠ '"') (hq : ∀ c ∈ q, c ≠ '"') :
    reSplit (f + 1) (t ++ '"' :: (q ++ '"' :: r)) = t :: q :: reSplit f r := by
  have ht := List.forall_mem_ne'.1 ht
  have hq := List.forall_mem_ne'.1 hq
  simp only [reSplit, takeWhile_ne_append_cons _ ht, dropWhile_ne_append_cons _ ht, takeWhile_ne_append_cons r hq,
    dropWhile_ne_append_cons r hq]

theorem reSplit_succ (f : Nat) (s : List Char) :
    reSplit (f + 1) s = [s] ∨
    ∃ t q r, s = t ++ '"' :: (q ++ '"' :: r) ∧ (∀ c ∈ t, c ≠ '"') ∧ (∀ c ∈ q, c ≠ '"') ∧
      reSplit (f + 1) s = t :: q :: reSplit f r := by
  rcases split_first '"' s with ⟨h1, h2, _⟩ | ⟨t, r, rfl, ht, _, h2⟩
  · exact Or.inl (by simp only [reSplit, h1, h2])
  · rcases split_first '"' r with ⟨_, h3, _⟩ | ⟨q, r', rfl, hq, _, _⟩
    · exact Or.inl (by simp only [reSplit, h2, h3])
    · exact Or.inr ⟨t, q, r', rfl, ht, hq, reSplit_two f t q r' ht hq⟩

theorem reSplit_ne_nil (f : Nat) (s : List Char) : reSplit f s ≠ [] := by
  cases f with
  | zero => simp [reSplit]
  | succ f => rcases reSplit_succ f s with h | ⟨_, _, _, _, _, _, h⟩ <;> simp [h]

theorem joinQuote_cons {p : List Char} {rest : List (List Char)} (h : rest ≠ []) :
    joinQuote (p :: rest) = p ++ '"' :: joinQuote rest := by
  cases rest with
  | nil => exact absurd rfl h
  | cons a b => simp [joinQuote]

theorem joinQuote_reSplit (fuel : Nat) (line : List Char) : joinQuote (reSplit fuel line) = line := by
  induction fuel generalizing line with
  | zero => rfl
  | succ f ih =>
    rcases reSplit_succ f line with h | ⟨t, q, r, rfl, _, _, h⟩
    · rw [h]; rfl
    · rw [h, joinQuote_cons (by simp), joinQuote_cons (reSplit_ne_nil f r), ih]

/-! ### quote positions -/

/-- `quotePositions` with a start index -/
def qpFrom (l : List Char) (n : Nat) : List Nat :=
  ((l.zipIdx n).filter fun (ch, _) => ch == '"').map (·.2)

theorem quotePositions_eq (l : List Char) : quotePositions l = qpFrom l 0 := rfl

theorem qpFrom_nil (n : Nat) : qpFrom [] n = [] := rfl

theorem qpFrom_cons_quote (l : List Char) (n : Nat) : qpFrom ('"' :: l) n = n :: qpFrom l (n + 1) := by
  simp [qpFrom, List.zipIdx_cons]

theorem qpFrom_append_free (t l : List Char) (n : Nat) (ht : ∀ c ∈ t, c ≠ '"') :
    qpFrom (t ++ l) n = qpFrom l (n + t.length) := by
  have : (t.zipIdx n).filter (fun (ch, _) => ch == '"') = [] :=
    List.filter_eq_nil_iff.2 fun ⟨c, _⟩ h => by simpa using ht c (List.fst_mem_of_mem_zipIdx h)
  simp only [qpFrom, List.zipIdx_append, List.filter_append, this, List.nil_append]

theorem qpFrom_free (t : List Char) (n : Nat) (ht : ∀ c ∈ t, c ≠ '"') : qpFrom t n = [] := by
  simpa [qpFrom_nil] using qpFrom_append_free t [] n ht

theorem qpFrom_split (t r : List Char) (n : Nat) (ht : ∀ c ∈ t, c ≠ '"') :
    qpFrom (t ++ '"' :: r) n = (n + t.length) :: qpFrom r (n + t.length + 1) := by
  rw [qpFrom_append_free t _ n ht, qpFrom_cons_quote]

theorem qpFrom_pos (l : List Char) (n k : Nat) (h : k + 1 ≤ (qpFrom l n).length) :
    ∃ t r, l = t ++ '"' :: r ∧ (∀ c ∈ t, c ≠ '"') ∧ k ≤ (qpFrom r (n + t.length + 1)).length := by
  rcases split_first '"' l with ⟨_, _, h0⟩ | ⟨t, r, rfl, ht, _, _⟩
  · rw [qpFrom_free l n h0] at h; simp at h
  · rw [qpFrom_split t r n ht] at h
    exact ⟨t, r, rfl, ht, by simpa using h⟩

theorem reSplit_length_le (fuel : Nat) (s : List Char) (n : Nat) :
    (reSplit fuel s).length ≤ (qpFrom s n).length + 1 := by
  induction fuel generalizing s n with
  | zero => simp [reSplit]
  | succ f ih =>
    rcases reSplit_succ f s with h | ⟨t, q, r, rfl, ht, hq, h⟩
    · simp [h]
    · rw [h, qpFrom_split t _ n ht, qpFrom_split q _ _ hq]
      have := ih r (n + t.length + 1 + q.length + 1)
      simp only [List.length_cons]; omega

/-! ### header lines: at least four quotes -/

/-- `t0 "f0" t1 "f1" r` -/
def hdr (t0 f0 t1 f1 r : List Char) : List Char :=
  t0 ++ '"' :: (f0 ++ '"' :: (t1 ++ '"' :: (f1 ++ '"' :: r)))

section hdr
variable {t0 f0 t1 f1 r : List Char} (ht0 : ∀ c ∈ t0, c ≠ '"') (hf0 : ∀ c ∈ f0, c ≠ '"')
  (ht1 : ∀ c ∈ t1, c ≠ '"') (hf1 : ∀ c ∈ f1, c ≠ '"')
include ht0 hf0 ht1 hf1

theorem quotePositions_hdr : quotePositions (hdr t0 f0 t1 f1 r) =
    t0.length :: (t0.length + 1 + f0.length) :: (t0.length + 1 + f0.length + 1 + t1.length) ::
      (t0.length + 1 + f0.length + 1 + t1.length + 1 + f1.length) ::
      qpFrom r (t0.length + 1 + f0.length + 1 + t1.length + 1 + f1.length + 1) := by
  rw [quotePositions_eq, hdr, qpFrom_split t0 _ _ ht0, qpFrom_split f0 _ _ hf0, qpFrom_split t1 _ _ ht1,
    qpFrom_split f1 _ _ hf1]
  simp

theorem reSplit_hdr (f : Nat) :
    reSplit (f + 2) (hdr t0 f0 t1 f1 r) = t0 :: f0 :: t1 :: f1 :: reSplit f r := by
  rw [hdr, reSplit_two (f + 1) t0 f0 _ ht0 hf0, reSplit_two f t1 f1 _ ht1 hf1]

theorem quotedField_hdr : quotedField (hdr t0 f0 t1 f1 r) 1 = f1 := by
  simp only [quotedField, quotePositions_hdr ht0 hf0 ht1 hf1]
  simp only [List.getD_cons_succ, List.getD_cons_zero, Nat.mul_one]
  have h1 : (hdr t0 f0 t1 f1 r).take (t0.length + 1 + f0.length + 1 + t1.length + 1 + f1.length) =
      (t0 ++ '"' :: (f0 ++ '"' :: (t1 ++ ['"']))) ++ f1 :=
    take_eq_of_append (b := '"' :: r) (by simp [hdr]) (by simp; omega)
  rw [h1]
  exact List.drop_left' (by simp; omega)

theorem setHeaderFields_hdr (d v : List Char) :
    setHeaderFields (hdr t0 f0 t1 f1 r) d v = hdr t0 d t1 v r := by
  simp only [setHeaderFields, quotePositions_hdr ht0 hf0 ht1 hf1]
  simp only [List.getD_cons_succ, List.getD_cons_zero]
  have h1 : (hdr t0 f0 t1 f1 r).take (t0.length + 1) = t0 ++ ['"'] :=
    take_eq_of_append (b := f0 ++ '"' :: (t1 ++ '"' :: (f1 ++ '"' :: r))) (by simp [hdr]) (by simp)
  have h2 : (hdr t0 f0 t1 f1 r).take (t0.length + 1 + f0.length + 1 + t1.length + 1) =
      (t0 ++ '"' :: f0) ++ ('"' :: (t1 ++ ['"'])) :=
    take_eq_of_append (b := f1 ++ '"' :: r) (by simp [hdr]) (by simp; omega)
  have h3 : (hdr t0 f0 t1 f1 r).drop (t0.length + 1 + f0.length + 1 + t1.length + 1 + f1.length) = '"' :: r :=
    drop_eq_of_append (a := t0 ++ '"' :: (f0 ++ '"' :: (t1 ++ '"' :: f1))) (by simp [hdr]) (by simp; omega)
  rw [h1, h2, h3, List.drop_left' (by simp; omega)]
  simp [hdr]

end hdr

/-! ### the per-line test and rewrite of `update_manpage` -/

theorem TH_toList : ".TH ".toList = ['.', 'T', 'H', ' '] := String.toList_ofList

theorem startsWithTH_eq (l : List Char) : startsWithTH l = (l.take 4 == ".TH ".toList) := by
  rw [startsWithTH, TH_toList]

/-- `.TH ` contains no quote, so the test on the line is a test on `t0` -/
theorem take4_hdr (t0 f0 t1 f1 r : List Char) :
    (hdr t0 f0 t1 f1 r).take 4 = ".TH ".toList ↔ t0.take 4 = ".TH ".toList := by
  rw [TH_toList]
  rcases t0 with _ | ⟨a, _ | ⟨b, _ | ⟨c, _ | ⟨e, t⟩⟩⟩⟩ <;> simp [hdr]

theorem wf_iff_hdr (l : List Char) : wellFormedHeader l = true ↔
    ∃ t0 f0 t1 f1 r, l = hdr t0 f0 t1 f1 r ∧ (∀ c ∈ t0, c ≠ '"') ∧ (∀ c ∈ f0, c ≠ '"') ∧
      (∀ c ∈ t1, c ≠ '"') ∧ (∀ c ∈ f1, c ≠ '"') ∧ t0.take 4 = ".TH ".toList := by
  simp only [wellFormedHeader, Bool.and_eq_true, decide_eq_true_eq, ge_iff_le, beq_iff_eq]
  constructor
  · rintro ⟨hTH, hq⟩
    -- four quotes: split at the first one, four times
    obtain ⟨t0, r0, rfl, ht0, hq⟩ := qpFrom_pos l 0 3 hq
    obtain ⟨f0, r1, rfl, hf0, hq⟩ := qpFrom_pos r0 _ 2 hq
    obtain ⟨t1, r2, rfl, ht1, hq⟩ := qpFrom_pos r1 _ 1 hq
    obtain ⟨f1, r, rfl, hf1, _⟩ := qpFrom_pos r2 _ 0 hq
    exact ⟨t0, f0, t1, f1, r, rfl, ht0, hf0, ht1, hf1, (take4_hdr ..).1 hTH⟩
  · rintro ⟨t0, f0, t1, f1, r, rfl, ht0, hf0, ht1, hf1, hTH⟩
    refine ⟨(take4_hdr ..).2 hTH, ?_⟩
    rw [quotePositions_hdr ht0 hf0 ht1 hf1]; simp

/-- on a well-formed header line both tests of the loop body pass, `parts[3]` is quoted field 1, and the line joined
after the two assignments is `setHeaderFields` -/
theorem line_wf (l : List Char) (h : wellFormedHeader l = true) (v d : List Char) :
    startsWithTH l = true ∧ ¬ (reSplit (l.length + 1) l).length < 5 ∧
    (reSplit (l.length + 1) l).getD 3 [] = quotedField l 1 ∧
    joinQuote (((reSplit (l.length + 1) l).set 3 v).set 1 d) = setHeaderFields l d v := by
  have hTH : startsWithTH l = true := by
    rw [startsWithTH_eq]; exact (Bool.and_eq_true _ _ ▸ h : _ ∧ _).1
  obtain ⟨t0, f0, t1, f1, r, rfl, ht0, hf0, ht1, hf1, _⟩ := (wf_iff_hdr l).1 h
  -- the fuel is enough for the two steps that `reSplit_hdr` takes
  obtain ⟨f, hf⟩ : ∃ f, (hdr t0 f0 t1 f1 r).length + 1 = f + 2 :=
    ⟨(hdr t0 f0 t1 f1 r).length - 1, by simp [hdr]; omega⟩
  rw [hf, reSplit_hdr ht0 hf0 ht1 hf1]
  refine ⟨hTH, ?_, ?_, ?_⟩
  · have := List.length_pos_iff.2 (reSplit_ne_nil f r)
    simp only [List.length_cons]; omega
  · rw [quotedField_hdr ht0 hf0 ht1 hf1]; rfl
  · rw [setHeaderFields_hdr ht0 hf0 ht1 hf1]
    simp only [List.set_cons_succ, List.set_cons_zero]
    rw [joinQuote_cons (by simp), joinQuote_cons (by simp), joinQuote_cons (by simp),
      joinQuote_cons (reSplit_ne_nil f r), joinQuote_reSplit, hdr]

theorem line_nwf (l : List Char) (h : wellFormedHeader l = false) :
    startsWithTH l = false ∨ (reSplit (l.length + 1) l).length < 5 := by
  rw [startsWithTH_eq]
  cases hTH : (l.take 4 == ".TH ".toList) with
  | false => exact Or.inl rfl
  | true =>
    right
    simp only [wellFormedHeader, hTH, Bool.true_and, decide_eq_false_iff_not, ge_iff_le, Nat.not_le] at h
    have := reSplit_length_le (l.length + 1) l 0
    rw [← quotePositions_eq] at this
    omega

/-- closed form of the loop: the first well-formed header line is the only candidate -/
theorem processLines_eq (v d : List Char) (L : List (List Char)) :
    processLines v d L =
      match L.findIdx? wellFormedHeader with
      | none => (false, L)
      | some i =>
        if quotedField (L.getD i []) 1 == v then (false, L)
        else (true, L.set i (setHeaderFields (L.getD i []) d v)) := by
  induction L with
  | nil => simp [processLines]
  | cons line rest ih =>
    rw [List.findIdx?_cons]
    cases hw : wellFormedHeader line with
    | true =>
      obtain ⟨h1, h2, h3, h4⟩ := line_wf line hw v d
      simp only [processLines, h1, h2, h3, h4, Bool.not_true, Bool.false_eq_true, if_false, if_true,
        List.getD_cons_zero, List.set_cons_zero]
      cases hq : quotedField line 1 == v <;> simp [bne, hq]
    | false =>
      have hrest : processLines v d (line :: rest) =
          ((processLines v d rest).1, line :: (processLines v d rest).2) := by
        rcases line_nwf line hw with h | h
        · simp only [processLines, h, Bool.not_false, if_true]
        · cases hs : startsWithTH line <;> simp only [processLines, hs, h, Bool.not_false, Bool.not_true,
            Bool.false_eq_true, if_true, if_false]
      rw [hrest, ih]
      cases hf : rest.findIdx? wellFormedHeader with
      | none => simp
      | some i =>
        simp only [Bool.false_eq_true, if_false, Option.map_some, List.getD_cons_succ, List.set_cons_succ]
        split <;> rfl

/-! ### model = Spec and its two readings -/

theorem updateManpage_eq_expected (name ver date page : List Char) :
    updateManpage name ver date page = expectedManpage name ver date page := by
  unfold updateManpage expectedManpage
  split
  · rfl
  · simp only [readLines_eq_lineSplit, processLines_eq]
    generalize lineSplit (page.length + 1) page = L
    cases h : L.findIdx? wellFormedHeader with
    | none => simp
    | some i =>
      have hi : i < L.length := (List.findIdx?_eq_some_iff_getElem.1 h).1
      simp only
      split
      · simp
      · simp [flatten_set L i hi]

theorem updateManpage_some (ver date page page' : List Char)
    (h : updateManpage "qrcode".toList ver date page = some page') :
    ∃ L i t0 f0 t1 f1 r, ∃ hi : i < L.length, lineSplit (page.length + 1) page = L ∧
      (∀ j (hj : j < i), wellFormedHeader L[j] = false) ∧ L[i] = hdr t0 f0 t1 f1 r ∧
      (∀ c ∈ t0, c ≠ '"') ∧ (∀ c ∈ f0, c ≠ '"') ∧ (∀ c ∈ t1, c ≠ '"') ∧ (∀ c ∈ f1, c ≠ '"') ∧
      t0.take 4 = ".TH ".toList ∧ f1 ≠ ver ∧ page' = (L.set i (hdr t0 date t1 ver r)).flatten := by
  rw [updateManpage_eq_expected] at h
  simp only [expectedManpage, bne_self_eq_false, Bool.false_eq_true, if_false] at h
  generalize hL : lineSplit (page.length + 1) page = L at h
  cases hf : L.findIdx? wellFormedHeader with
  | none => rw [hf] at h; exact absurd h (by simp)
  | some i =>
    obtain ⟨hi, hwf, hfirst⟩ := List.findIdx?_eq_some_iff_getElem.1 hf
    obtain ⟨t0, f0, t1, f1, r, hl, ht0, hf0, ht1, hf1, hTH⟩ := (wf_iff_hdr _).1 hwf
    have hget : L.getD i [] = hdr t0 f0 t1 f1 r := by simp [List.getD, hi, hl]
    simp only [hf, hget, quotedField_hdr ht0 hf0 ht1 hf1,
      setHeaderFields_hdr ht0 hf0 ht1 hf1, ← flatten_set L i hi] at h
    by_cases hq : f1 = ver
    · simp [hq] at h
    · simp only [beq_iff_eq, hq, if_false, Option.some.injEq] at h
      exact ⟨L, i, t0, f0, t1, f1, r, hi, rfl, fun j hj => Bool.eq_false_iff.2 (hfirst j hj), hl, ht0, hf0, ht1, hf1,
        hTH, hq, h.symm⟩

theorem updateManpage_none_of_same_version (ver date page : List Char) (L : List (List Char))
    (hL : lineSplit (page.length + 1) page = L) (i : Nat) (hi : i < L.length)
    (hwf : wellFormedHeader L[i] = true) (hfirst : ∀ j (hj : j < i), wellFormedHeader L[j] = false)
    (hq : quotedField L[i] 1 = ver) :
    updateManpage "qrcode".toList ver date page = none := by
  have hfind : L.findIdx? wellFormedHeader = some i :=
    List.findIdx?_eq_some_iff_getElem.2 ⟨hi, hwf, fun j hj => by simp [hfirst j hj]⟩
  have hget : L.getD i [] = L[i] := by simp [List.getD, hi]
  rw [updateManpage_eq_expected]
  simp only [expectedManpage, bne_self_eq_false, Bool.false_eq_true, if_false, hL, hfind, hget, hq,
    beq_self_eq_true, if_true]

/-! ### idempotence -/

/-- whether a line is terminated or unterminated depends only on what follows a newline-free prefix: such a prefix may
be swapped for another -/
theorem shape_swap {X Y s : List Char} (hs : s ≠ []) (hXY : (∀ c ∈ X, c ≠ '\n') → ∀ c ∈ Y, c ≠ '\n') :
    (Term (X ++ s) → Term (Y ++ s)) ∧ (Unterm (X ++ s) → Unterm (Y ++ s)) := by
  have swap : ∀ t : List Char, (∀ c ∈ X ++ t, c ≠ '\n') → ∀ c ∈ Y ++ t, c ≠ '\n' := fun t h => by
    rw [List.forall_mem_append] at h ⊢
    exact ⟨hXY h.1, h.2⟩
  constructor
  · rintro ⟨b, hb, hfree⟩
    -- `s` is not empty, so the final newline is the last character of `s`
    rw [← List.dropLast_concat_getLast hs, ← List.append_assoc] at hb
    obtain ⟨rfl, hlast⟩ := List.append_inj' hb rfl
    refine ⟨Y ++ s.dropLast, ?_, swap _ hfree⟩
    rw [List.append_assoc, ← hlast, List.dropLast_concat_getLast hs]
  · rintro ⟨_, hfree⟩
    exact ⟨by simp [hs], swap _ hfree⟩

theorem hdr_shape (t0 f0 t1 f1 r d v : List Char) (hd : ∀ c ∈ d, c ≠ '\n') (hv : ∀ c ∈ v, c ≠ '\n') :
    (Term (hdr t0 f0 t1 f1 r) → Term (hdr t0 d t1 v r)) ∧ (Unterm (hdr t0 f0 t1 f1 r) → Unterm (hdr t0 d t1 v r)) := by
  have e : ∀ a b, hdr t0 a t1 b r = (t0 ++ '"' :: (a ++ '"' :: (t1 ++ '"' :: b))) ++ '"' :: r := by simp [hdr]
  rw [e, e]
  refine shape_swap (by simp) ?_
  simp only [List.forall_mem_append, List.forall_mem_cons]
  exact fun ⟨h0, q, _, _, h1, _, _⟩ => ⟨h0, q, hd, q, h1, q, hv⟩

/-- C20 idempotence: after a run that wrote, a second run with the same version writes nothing, whatever the date -/
theorem idempotent (ver date date' page page' : List Char)
    (hv : ∀ c ∈ ver, c ≠ '"' ∧ c ≠ '\n') (hd : ∀ c ∈ date, c ≠ '"' ∧ c ≠ '\n')
    (h : updateManpage "qrcode".toList ver date page = some page') :
    updateManpage "qrcode".toList ver date' page' = none := by
  obtain ⟨L, i, t0, f0, t1, f1, r, hi, hL, hfirst, hline, ht0, hf0, ht1, hf1, hTH, _, hp⟩ :=
    updateManpage_some ver date page page' h
  have hvq : ∀ c ∈ ver, c ≠ '"' := fun c hc => (hv c hc).1
  have hdq : ∀ c ∈ date, c ≠ '"' := fun c hc => (hd c hc).1
  -- the new list of lines is what `readlines` returns on the new page
  have hL' : Lines (L.set i (hdr t0 date t1 ver r)) :=
    lines_set L (hL ▸ lines_lineSplit _ page) i hi _
      (hline ▸ hdr_shape t0 f0 t1 f1 r date ver (fun c hc => (hd c hc).2) (fun c hc => (hv c hc).2))
  have hsplit : lineSplit (page'.length + 1) page' = L.set i (hdr t0 date t1 ver r) := by
    rw [hp]; exact lineSplit_of_lines _ hL' _ (Nat.lt_succ_self _)
  -- its first well-formed header is again line i, now with version field `ver`
  refine updateManpage_none_of_same_version ver date' page' _ hsplit i (by simpa using hi) ?_ (fun j hj => ?_) ?_
  · rw [List.getElem_set_self]
    exact (wf_iff_hdr _).2 ⟨t0, date, t1, ver, r, rfl, ht0, hdq, ht1, hvq, hTH⟩
  · rw [List.getElem_set_ne (by omega)]
    exact hfirst j hj
  · rw [List.getElem_set_self, quotedField_hdr ht0 hdq ht1 hvq]

end QR.Proofs.Release
