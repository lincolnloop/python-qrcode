import QR.Model.Render
import QR.Proofs.Lists
import QR.Spec.Render
/-
The framed symbol (`Spec.framed`, `Spec.frame`) and `Model.getMatrix` (C16): both are brought to the same three blocks
(`border` light rows, the symbol rows padded left and right, `border` light rows), which is also the form in which the
raster (C12) and text (C15) proofs read the frame.
-/
namespace QR.Proofs.Frame

theorem framed_eq_true_iff (M : Spec.Mods) (n b r c : Nat) :
    Spec.framed M n b r c = true ↔
      (b ≤ r ∧ r < b + n) ∧ (b ≤ c ∧ c < b + n) ∧ Spec.modAt M (r - b) (c - b) = true := by
  simp only [Spec.framed, Bool.and_eq_true, decide_eq_true_eq, and_assoc]

theorem framed_inside (M : Spec.Mods) (n b i j : Nat) (hi : i < n) (hj : j < n) :
    Spec.framed M n b (b + i) (b + j) = Spec.modAt M i j := by
  rw [Bool.eq_iff_iff, framed_eq_true_iff, Nat.add_sub_cancel_left, Nat.add_sub_cancel_left]
  exact ⟨fun h => h.2.2, fun h => ⟨⟨Nat.le_add_right .., by omega⟩, ⟨Nat.le_add_right .., by omega⟩, h⟩⟩

theorem framed_outside (M : Spec.Mods) (n b r c : Nat) (h : r < b ∨ b + n ≤ r ∨ c < b ∨ b + n ≤ c) :
    Spec.framed M n b r c = false := by
  rw [← Bool.not_eq_true, framed_eq_true_iff]; omega

def frameRow (M : Spec.Mods) (n border r : Nat) : List Bool :=
  (List.range (n + 2 * border)).map fun c => Spec.framed M n border r c

theorem frame_eq_map (M : Spec.Mods) (n border : Nat) :
    Spec.frame M n border = (List.range (n + 2 * border)).map (frameRow M n border) := rfl

theorem frameRow_outside (M : Spec.Mods) (n border r : Nat) (h : r < border ∨ border + n ≤ r) :
    frameRow M n border r = List.replicate (n + 2 * border) false :=
  map_range_eq_replicate _ _ _ fun c _ => framed_outside M n border r c (by omega)

theorem frameRow_inside (M : Spec.Mods) (n border i : Nat) (h : i < n) :
    frameRow M n border (border + i) =
      List.replicate border false ++ (List.range n).map (Spec.modAt M i) ++ List.replicate border false := by
  rw [frameRow, map_range_three,
    map_range_eq_replicate border _ false fun c hc => framed_outside M n border _ c (by omega),
    map_range_eq_replicate border _ false fun c _ => framed_outside M n border _ _ (by omega)]
  congr 2
  exact List.map_congr_left fun c hc => framed_inside M n border i c h (List.mem_range.1 hc)

theorem frame_eq_blocks (M : Spec.Mods) (n border : Nat) :
    Spec.frame M n border =
      List.replicate border (List.replicate (n + 2 * border) false)
      ++ (List.range n).map (fun i =>
            List.replicate border false ++ (List.range n).map (Spec.modAt M i) ++ List.replicate border false)
      ++ List.replicate border (List.replicate (n + 2 * border) false) := by
  rw [frame_eq_map, map_range_three,
    map_range_eq_replicate border _ _ fun r hr => frameRow_outside M n border r (Or.inl hr),
    map_range_eq_replicate border _ _ fun r _ => frameRow_outside M n border _ (Or.inr (by omega))]
  congr 2
  exact List.map_congr_left fun i hi => frameRow_inside M n border i (List.mem_range.1 hi)

/-- total in `r c`: outside the frame both sides are `false` -/
theorem frame_getD (M : Spec.Mods) (n border r c : Nat) :
    ((Spec.frame M n border).getD r []).getD c false = Spec.framed M n border r c := by
  rw [Spec.frame, getD_map_range]
  split
  · rw [getD_map_range]
    split
    · rfl
    · exact (framed_outside M n border r c (by omega)).symm
  · exact (framed_outside M n border r c (by omega)).symm

/-- Python returns `self.modules` itself when `border = 0`; the block form covers that case (the blocks are empty) -/
theorem getMatrix_eq_blocks (M : Model.Mods) (border : Nat) :
    Model.getMatrix M border =
      List.replicate border (List.replicate (M.length + border * 2) false)
        ++ M.map (fun row => List.replicate border false ++ row ++ List.replicate border false)
        ++ List.replicate border (List.replicate (M.length + border * 2) false) := by
  unfold Model.getMatrix
  split
  · next h => subst h; simp only [List.replicate_zero, List.nil_append, List.append_nil, List.map_id']
  · rfl

theorem square_eq_table (M : Spec.Mods) (n : Nat) (hlen : M.length = n) (hrow : ∀ row ∈ M, row.length = n) :
    M = (List.range n).map fun i => (List.range n).map (Spec.modAt M i) := by
  refine (map_getD_range M []).symm.trans ?_
  rw [hlen]
  apply List.map_congr_left
  intro i hi
  have hi' : i < M.length := hlen ▸ List.mem_range.1 hi
  have hr : (M.getD i []).length = n := by
    rw [List.getD_eq_getElem?_getD, List.getElem?_eq_getElem hi', Option.getD_some]
    exact hrow _ (List.getElem_mem hi')
  rw [← hr]
  exact (map_getD_range (M.getD i []) false).symm

/-- **C16**: `get_matrix()` of an n x n symbol is the symbol framed by exactly `border` light modules -/
theorem getMatrix_eq_frame (M : List (List Bool)) (n border : Nat)
    (hlen : M.length = n) (hrow : ∀ row ∈ M, row.length = n) :
    Model.getMatrix M border = Spec.frame M n border := by
  rw [getMatrix_eq_blocks, frame_eq_blocks, hlen, Nat.mul_comm border 2]
  congr 2
  conv => lhs; rw [square_eq_table M n hlen hrow, List.map_map]
  rfl

theorem getMatrix_length (M : Model.Mods) (border : Nat) :
    (Model.getMatrix M border).length = M.length + 2 * border := by
  rw [getMatrix_eq_blocks]
  simp only [List.length_append, List.length_replicate, List.length_map]
  omega

theorem getMatrix_row_length (M : List (List Bool)) (n border : Nat)
    (hlen : M.length = n) (hrow : ∀ row ∈ M, row.length = n) :
    ∀ row ∈ Model.getMatrix M border, row.length = n + 2 * border := by
  rw [getMatrix_eq_frame M n border hlen hrow]
  intro row h
  obtain ⟨r, _, rfl⟩ := List.mem_map.1 h
  rw [List.length_map, List.length_range]

theorem getMatrix_getD (M : List (List Bool)) (n border : Nat)
    (hlen : M.length = n) (hrow : ∀ row ∈ M, row.length = n) (r c : Nat) :
    ((Model.getMatrix M border).getD r []).getD c false = Spec.framed M n border r c := by
  rw [getMatrix_eq_frame M n border hlen hrow, frame_getD]

end QR.Proofs.Frame
