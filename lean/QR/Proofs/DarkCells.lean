import QR.Spec.Svg
/-
`QRCode.make_image` visits the modules row by row and acts on the dark ones only.  `Spec.darkCells` is that iteration
order as a list; `map_darkCells` and `foldl_darkCells` turn the double loop (as a `flatMap`/`filterMap`, or as a fold) into
a map / fold over it.  The Pillow raster (C12), the SVG shape list (C13) and their source ties all go through them.
-/
namespace QR.Proofs.DarkCells

theorem mem_darkCells (M : List (List Bool)) (n r c : Nat) :
    (r, c) ∈ Spec.darkCells M n ↔ r < n ∧ c < n ∧ (M.getD r []).getD c false = true := by
  simp only [Spec.darkCells, List.mem_flatMap, List.mem_filterMap, List.mem_range, Option.ite_none_right_eq_some,
    Option.some.injEq, Prod.mk.injEq]
  constructor
  · rintro ⟨r', hr, c', hc, hd, rfl, rfl⟩
    exact ⟨hr, hc, hd⟩
  · rintro ⟨hr, hc, hd⟩
    exact ⟨r, hr, c, hc, hd, rfl, rfl⟩

/-- strictly increasing in row-major order, hence no cell twice -/
theorem darkCells_sorted (M : List (List Bool)) (n : Nat) :
    (Spec.darkCells M n).Pairwise fun a b => a.1 < b.1 ∨ (a.1 = b.1 ∧ a.2 < b.2) := by
  have entry : ∀ {r c : Nat} {b : Nat × Nat},
      (if (M.getD r []).getD c false then some (r, c) else none) = some b → b = (r, c) :=
    fun h => (Option.some.inj (Option.ite_none_right_eq_some.1 h).2).symm
  unfold Spec.darkCells
  rw [List.pairwise_flatMap]
  constructor
  · intro r _
    refine List.Pairwise.filterMap _ ?_ (List.pairwise_lt_range (n := n))
    intro c c' hcc b hb b' hb'
    rw [entry hb, entry hb']
    exact Or.inr ⟨rfl, hcc⟩
  · refine List.Pairwise.imp ?_ (List.pairwise_lt_range (n := n))
    intro r r' hrr x hx y hy
    obtain ⟨c, _, hx⟩ := List.mem_filterMap.1 hx
    obtain ⟨c', _, hy⟩ := List.mem_filterMap.1 hy
    rw [entry hx, entry hy]
    exact Or.inl hrr

theorem map_darkCells {β : Type} (M : List (List Bool)) (n : Nat) (g : Nat × Nat → β) :
    (Spec.darkCells M n).map g =
      (List.range n).flatMap fun r => (List.range n).filterMap fun c =>
        if (M.getD r []).getD c false then some (g (r, c)) else none := by
  simp only [Spec.darkCells, List.map_flatMap, List.map_filterMap, apply_ite (Option.map g), Option.map_some,
    Option.map_none]

theorem foldl_darkCells {S : Type} (M : List (List Bool)) (n : Nat) (step : S → Nat × Nat → S) (init : S) :
    (Spec.darkCells M n).foldl step init =
      (List.range n).foldl (fun s r => (List.range n).foldl (fun s c =>
        if (M.getD r []).getD c false then step s (r, c) else s) s) init := by
  rw [Spec.darkCells, List.foldl_flatMap]
  congr 1; funext s r
  rw [List.foldl_filterMap]
  congr 1; funext s c
  cases (M.getD r []).getD c false <;> rfl

end QR.Proofs.DarkCells
