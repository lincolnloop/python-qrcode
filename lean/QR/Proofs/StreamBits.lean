import QR.Model.Matrix
import QR.Spec.Stream
/-
Bit-level lemmas for the data bit stream (C06, C05 placement, the BitBuffer tie): `bitsBE`, `Spec.bitsVal`, `natOfBits`,
take/drop of a written field, bytes written out (`writeBytes` = `codewordBits`) and packed (`packBytes`).
-/
namespace QR
open Model

theorem bitsVal_eq_natOfBits (bs : List Bool) : Spec.bitsVal bs = natOfBits bs := rfl

@[simp] theorem bitsBE_length (x w : Nat) : (bitsBE x w).length = w := by
  induction w with
  | zero => rfl
  | succ w ih => simp [bitsBE, ih]

private theorem bitsVal_foldl (bs : List Bool) (acc : Nat) :
    bs.foldl (fun acc b => 2 * acc + (if b then 1 else 0)) acc = acc * 2 ^ bs.length + Spec.bitsVal bs := by
  induction bs generalizing acc with
  | nil => simp [Spec.bitsVal]
  | cons b bs ih =>
    simp only [List.foldl_cons, List.length_cons, Spec.bitsVal]
    rw [ih, ih (2 * 0 + _), Nat.pow_succ, Nat.add_mul, Nat.add_mul, Nat.mul_comm 2 acc, Nat.mul_assoc,
      Nat.mul_comm 2 (2 ^ bs.length)]
    omega

@[simp] theorem bitsVal_nil : Spec.bitsVal [] = 0 := rfl

theorem bitsVal_append (as bs : List Bool) :
    Spec.bitsVal (as ++ bs) = Spec.bitsVal as * 2 ^ bs.length + Spec.bitsVal bs := by
  show (as ++ bs).foldl _ 0 = _
  rw [List.foldl_append, bitsVal_foldl]
  rfl

theorem bitsVal_cons (b : Bool) (bs : List Bool) :
    Spec.bitsVal (b :: bs) = b.toNat * 2 ^ bs.length + Spec.bitsVal bs := by
  rw [← List.singleton_append, bitsVal_append]
  cases b <;> rfl

theorem bitsVal_lt (bs : List Bool) : Spec.bitsVal bs < 2 ^ bs.length := by
  induction bs with
  | nil => simp
  | cons b bs ih =>
    rw [bitsVal_cons, List.length_cons, Nat.pow_succ]
    cases b <;> simp <;> omega

theorem bitsVal_bitsBE_mod (x w : Nat) : Spec.bitsVal (bitsBE x w) = x % 2 ^ w := by
  induction w with
  | zero => simp [bitsBE, Nat.mod_one]
  | succ w ih =>
    rw [bitsBE, bitsVal_cons, bitsBE_length, ih, Nat.toNat_testBit, Nat.mod_pow_succ, Nat.mul_comm]
    omega

theorem bitsVal_bitsBE {x w : Nat} (h : x < 2 ^ w) : Spec.bitsVal (bitsBE x w) = x := by
  rw [bitsVal_bitsBE_mod, Nat.mod_eq_of_lt h]

theorem natOfBits_bitsBE {x w : Nat} (h : x < 2 ^ w) : natOfBits (bitsBE x w) = x :=
  bitsVal_bitsBE h

theorem take_bitsBE_append (x w : Nat) (rest : List Bool) : (bitsBE x w ++ rest).take w = bitsBE x w :=
  List.take_left' (bitsBE_length x w)

theorem drop_bitsBE_append (x w : Nat) (rest : List Bool) : (bitsBE x w ++ rest).drop w = rest :=
  List.drop_left' (bitsBE_length x w)

theorem bitsVal_replicate_false (n : Nat) : Spec.bitsVal (List.replicate n false) = 0 := by
  induction n with
  | zero => rfl
  | succ n ih => rw [List.replicate_succ, bitsVal_cons, ih]; simp

theorem bitsBE_zero (w : Nat) : bitsBE 0 w = List.replicate w false := by
  induction w with
  | zero => rfl
  | succ w ih => simp [bitsBE, ih, List.replicate_succ]

theorem bitsBE_congr {x y w : Nat} (h : ∀ i, i < w → x.testBit i = y.testBit i) : bitsBE x w = bitsBE y w := by
  induction w with
  | zero => rfl
  | succ w ih =>
    rw [bitsBE, bitsBE, h w (Nat.lt_succ_self w), ih (fun i hi => h i (Nat.lt_succ_of_lt hi))]

theorem bitsBE_bitsVal (bs : List Bool) : bitsBE (Spec.bitsVal bs) bs.length = bs := by
  induction bs with
  | nil => rfl
  | cons b bs ih =>
    have hlt := bitsVal_lt bs
    rw [bitsVal_cons, List.length_cons, bitsBE, Nat.mul_comm]
    congr 1
    · rw [Nat.testBit_two_pow_mul_add _ hlt]
      cases b <;> simp
    · refine Eq.trans (bitsBE_congr ?_) ih
      intro i hi
      rw [Nat.testBit_two_pow_mul_add _ hlt, if_pos hi]

/-- the loop of `BitBuffer.put`: bit `length - i - 1` of `num` for `i in range(length)` -/
theorem bitsBE_eq_map (num : Nat) : ∀ len : Nat, bitsBE num len = (List.range len).map fun i => num.testBit (len - i - 1)
  | 0 => rfl
  | len + 1 => by
    rw [bitsBE, bitsBE_eq_map num len, List.range_succ_eq_map, List.map_cons, List.map_map]
    congr 1
    apply List.map_congr_left
    intro i _
    congr 1; omega

/-- `map_data`'s bit stream and `QRData.write` in byte mode write bytes the same way -/
theorem codewordBits_eq_writeBytes : codewordBits = writeBytes := rfl

theorem writeBytes_cons (b : Nat) (bs : List Nat) : writeBytes (b :: bs) = bitsBE b 8 ++ writeBytes bs := by
  simp [writeBytes]

theorem codewordBits_cons (b : Nat) (bs : List Nat) : codewordBits (b :: bs) = bitsBE b 8 ++ codewordBits bs := by
  rw [codewordBits_eq_writeBytes]
  exact writeBytes_cons b bs

/-- position `8 * q + (7 - j)` of the stream `map_data` consumes holds bit `j` of codeword `q`; past the end it reads as zero -/
theorem codewordBits_getD (j : Nat) (hj : j ≤ 7) : ∀ (data : List Nat) (q : Nat),
    (codewordBits data)[8 * q + (7 - j)]?.getD false = (decide (q < data.length) && (data.getD q 0).testBit j)
  | [], q => by simp [codewordBits]
  | b :: bs, 0 => by
    rw [codewordBits_cons, List.getElem?_append_left (by rw [bitsBE_length]; omega), bitsBE_eq_map,
      List.getElem?_map, List.getElem?_range (by omega)]
    simp only [Option.map_some, Option.getD_some, List.length_cons, Nat.zero_lt_succ, decide_true, Bool.true_and,
      List.getD_cons_zero]
    congr 1
    omega
  | b :: bs, q + 1 => by
    rw [codewordBits_cons, List.getElem?_append_right (by rw [bitsBE_length]; omega), bitsBE_length,
      show 8 * (q + 1) + (7 - j) - 8 = 8 * q + (7 - j) by omega, codewordBits_getD j hj bs q]
    simp only [List.length_cons, Nat.add_lt_add_iff_right, List.getD_cons_succ]

theorem writeBytes_length (bs : List Nat) : (writeBytes bs).length = 8 * bs.length := by
  induction bs with
  | nil => rfl
  | cons b bs ih =>
    rw [writeBytes_cons, List.length_append, bitsBE_length, ih, List.length_cons]
    omega

theorem codewordBits_length (data : List Nat) : (codewordBits data).length = 8 * data.length :=
  writeBytes_length data

private theorem padded_length (bs : List Bool) :
    (bs.take 8 ++ List.replicate (8 - (bs.take 8).length) false).length = 8 := by
  simp only [List.length_append, List.length_take, List.length_replicate]; omega

theorem byteOfBits_lt (bs : List Bool) : byteOfBits bs < 256 := by
  have := bitsVal_lt (bs.take 8 ++ List.replicate (8 - (bs.take 8).length) false)
  rwa [padded_length] at this

/-- a byte written back on 8 bits is the (up to) eight bits it was packed from, zero-padded -/
theorem bitsBE_byteOfBits (bs : List Bool) :
    bitsBE (byteOfBits bs) 8 = bs.take 8 ++ List.replicate (8 - (bs.take 8).length) false := by
  have := bitsBE_bitsVal (bs.take 8 ++ List.replicate (8 - (bs.take 8).length) false)
  rwa [padded_length] at this

theorem packBytesAux_length (k : Nat) (bs : List Bool) : (packBytesAux k bs).length = k := by
  induction k generalizing bs with
  | zero => rfl
  | succ k ih => simp [packBytesAux, ih]

theorem packBytes_length (bs : List Bool) : (packBytes bs).length = (bs.length + 7) / 8 := packBytesAux_length _ _

theorem packBytesAux_lt (k : Nat) (bs : List Bool) : ∀ b ∈ packBytesAux k bs, b < 256 := by
  induction k generalizing bs with
  | zero => exact fun b hb => nomatch hb
  | succ k ih =>
    intro b hb
    rcases List.mem_cons.mp hb with rfl | hb
    · exact byteOfBits_lt bs
    · exact ih _ b hb

theorem packBytes_lt (bs : List Bool) : ∀ b ∈ packBytes bs, b < 256 := packBytesAux_lt _ bs

theorem writeBytes_packBytesAux (k : Nat) (bs : List Bool) (h : bs.length = 8 * k) :
    writeBytes (packBytesAux k bs) = bs := by
  induction k generalizing bs with
  | zero => exact (List.eq_nil_of_length_eq_zero (by omega)).symm
  | succ k ih =>
    have hl : (bs.take 8).length = 8 := by rw [List.length_take]; omega
    rw [packBytesAux, writeBytes_cons, bitsBE_byteOfBits, hl, Nat.sub_self, List.replicate_zero, List.append_nil,
      ih (bs.drop 8) (by rw [List.length_drop]; omega), List.take_append_drop]

theorem writeBytes_packBytes {bs : List Bool} (h : bs.length % 8 = 0) : writeBytes (packBytes bs) = bs :=
  writeBytes_packBytesAux _ bs (by omega)

/-! ### `packBytes` byte by byte, `byteOfBits` bit by bit (what `BitBuffer.put_bit` and `BitBuffer.get` rest on) -/

theorem packBytes_short (bs : List Bool) (h0 : 0 < bs.length) (h8 : bs.length ≤ 8) : packBytes bs = [byteOfBits bs] := by
  unfold packBytes
  have : (bs.length + 7) / 8 = 1 := by omega
  rw [this]; rfl

theorem packBytes_long (bs : List Bool) (h8 : 8 ≤ bs.length) : packBytes bs = byteOfBits bs :: packBytes (bs.drop 8) := by
  unfold packBytes
  have : (bs.length + 7) / 8 = ((bs.drop 8).length + 7) / 8 + 1 := by rw [List.length_drop]; omega
  rw [this]; rfl

theorem byteOfBits_short (bs : List Bool) (h : bs.length ≤ 8) : byteOfBits bs = Spec.bitsVal bs * 2 ^ (8 - bs.length) := by
  unfold byteOfBits
  rw [List.take_of_length_le h, ← bitsVal_eq_natOfBits, bitsVal_append, bitsVal_replicate_false, List.length_replicate,
    Nat.add_zero]

/-- appending one bit to at most seven: the bit lands at `0x80 >> length` (the byte is the value shifted up, and the new
    bit is below everything already there) -/
theorem byteOfBits_snoc (bs : List Bool) (b : Bool) (h : bs.length < 8) :
    byteOfBits (bs ++ [b]) = byteOfBits bs ||| (if b then 128 >>> bs.length else 0) := by
  obtain ⟨k, hk⟩ : ∃ k, bs.length + k = 7 := ⟨7 - bs.length, by omega⟩
  have hs : 128 >>> bs.length = 2 ^ k := by
    rw [Nat.shiftRight_eq_div_pow, show 128 = 2 ^ 7 from rfl, Nat.pow_div (by omega) (by decide)]; congr 1; omega
  rw [byteOfBits_short bs (by omega), byteOfBits_short (bs ++ [b]) (by simp; omega), bitsVal_append, hs,
    show 8 - bs.length = k + 1 by omega, show 8 - (bs ++ [b]).length = k by simp; omega, Nat.pow_succ]
  cases b
  · show (_ * 2 ^ 1 + 0) * 2 ^ k = _ ||| 0
    rw [Nat.or_zero, Nat.add_zero, Nat.pow_one, Nat.mul_assoc, Nat.mul_comm 2]
  · show (_ * 2 ^ 1 + 1) * 2 ^ k = _ ||| 2 ^ k
    have := Nat.two_pow_add_eq_or_of_lt (i := k + 1) (b := 2 ^ k) (Nat.pow_lt_pow_right (by decide) (Nat.lt_succ_self k))
      (Spec.bitsVal bs)
    rw [Nat.pow_succ, Nat.mul_comm] at this
    rw [← this, Nat.add_mul, Nat.one_mul, Nat.pow_one, Nat.mul_assoc, Nat.mul_comm 2]

theorem packBytes_getElem : ∀ (j : Nat) (bits : List Bool), 8 * j < bits.length →
    (packBytes bits)[j]? = some (byteOfBits (bits.drop (8 * j)))
  | 0, bits, h => by
    by_cases h8 : 8 ≤ bits.length
    · rw [packBytes_long bits h8]; simp
    · rw [packBytes_short bits (by omega) (by omega)]; simp
  | j + 1, bits, h => by
    rw [packBytes_long bits (by omega), List.getElem?_cons_succ,
      packBytes_getElem j (bits.drop 8) (by rw [List.length_drop]; omega), List.drop_drop]
    congr 3; omega

theorem byteOfBits_testBit (bs : List Bool) (j : Nat) (hj : j < 8) (hl : j < bs.length) :
    (byteOfBits bs).testBit (7 - j) = bs[j] := by
  -- the byte written back on 8 bits is the padded list (`bitsBE_byteOfBits`); entry `j` of both sides
  have h2 : (bitsBE (byteOfBits bs) 8)[j]? = some ((byteOfBits bs).testBit (7 - j)) := by
    rw [bitsBE_eq_map]
    simp [hj]
    congr 1; omega
  have h3 : (bs.take 8 ++ List.replicate (8 - (bs.take 8).length) false)[j]? = some bs[j] := by
    have : j < (bs.take 8).length := by rw [List.length_take]; omega
    rw [List.getElem?_append_left this, List.getElem?_take_of_lt hj, List.getElem?_eq_getElem hl]
  rw [bitsBE_byteOfBits, h3] at h2
  exact (Option.some.inj h2).symm

end QR
