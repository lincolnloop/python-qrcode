import QR.Model.Data
import QR.Proofs.GF256
import QR.Proofs.Except
/-
Reed-Solomon division in the model (`Polynomial.__mod__`, `polyMod`) against the specification field:
the remainder agrees with the dividend at every root of a monic divisor.  Before that, Horner evaluation `Spec.peval`
is linear (sum, scaling, shift), whence the ISO generator `∏_{i<e} (x − α^i)` vanishes at `α^i`, `i < e`, for every `e`.
At the end the block computation `ecOfBlock`: data followed by the remainder of `data·x^e` vanishes at these roots.
-/
namespace QR.Proofs
open QR.Spec

def Bytes (l : List Nat) : Prop := ∀ c ∈ l, c < 256

theorem Bytes.nil : Bytes [] := by intro c h; cases h
theorem Bytes.cons {a : Nat} {l : List Nat} (ha : a < 256) (hl : Bytes l) : Bytes (a :: l) :=
  List.forall_mem_cons.mpr ⟨ha, hl⟩
theorem Bytes.head {a : Nat} {l : List Nat} (h : Bytes (a :: l)) : a < 256 := h a (List.mem_cons_self ..)
theorem Bytes.tail {a : Nat} {l : List Nat} (h : Bytes (a :: l)) : Bytes l :=
  fun c hc => h c (List.mem_cons_of_mem _ hc)
theorem Bytes.append {l m : List Nat} (hl : Bytes l) (hm : Bytes m) : Bytes (l ++ m) := by
  intro c h
  rcases List.mem_append.mp h with h | h
  · exact hl c h
  · exact hm c h
theorem Bytes.replicate_zero (n : Nat) : Bytes (List.replicate n 0) := by
  intro c h
  rw [(List.mem_replicate.mp h).2]; omega

theorem Bytes.zipWith_xor {p q : List Nat} (hp : Bytes p) (hq : Bytes q) : Bytes (List.zipWith (· ^^^ ·) p q) := by
  intro c hc
  obtain ⟨i, hi, rfl⟩ := List.getElem_of_mem hc
  rw [List.getElem_zipWith]
  exact xor_lt_256 (hp _ (List.getElem_mem _)) (hq _ (List.getElem_mem _))

/-- `Spec.peval` started from an arbitrary accumulator -/
def pevalAcc (r acc : Nat) (p : List Nat) : Nat := p.foldl (fun acc a => gfmul acc r ^^^ a) acc

theorem peval_eq (r : Nat) (p : List Nat) : peval r p = pevalAcc r 0 p := rfl

@[simp] theorem pevalAcc_nil (r acc : Nat) : pevalAcc r acc [] = acc := rfl
theorem pevalAcc_cons (r acc a : Nat) (p : List Nat) :
    pevalAcc r acc (a :: p) = pevalAcc r (gfmul acc r ^^^ a) p := rfl
theorem pevalAcc_append (r acc : Nat) (p q : List Nat) :
    pevalAcc r acc (p ++ q) = pevalAcc r (pevalAcc r acc p) q := by
  simp [pevalAcc, List.foldl_append]

theorem peval_cons (r a : Nat) (p : List Nat) : peval r (a :: p) = pevalAcc r a p := by
  rw [peval_eq, pevalAcc_cons, gfmul_zero_left, Nat.zero_xor]
theorem peval_append (r : Nat) (p q : List Nat) : peval r (p ++ q) = pevalAcc r (peval r p) q :=
  pevalAcc_append r 0 p q

theorem horner_lt {acc a r : Nat} (hacc : acc < 256) (ha : a < 256) : gfmul acc r ^^^ a < 256 :=
  xor_lt_256 (gfmul_lt _ hacc) ha

theorem pevalAcc_lt {r acc : Nat} {p : List Nat} (hacc : acc < 256) (hp : Bytes p) : pevalAcc r acc p < 256 := by
  induction p generalizing acc with
  | nil => simpa using hacc
  | cons a p ih =>
    rw [pevalAcc_cons]
    exact ih (horner_lt hacc hp.head) hp.tail

theorem peval_lt {r : Nat} {p : List Nat} (hp : Bytes p) : peval r p < 256 :=
  pevalAcc_lt (by omega) hp

theorem peval_zero_cons (r : Nat) (p : List Nat) : peval r (0 :: p) = peval r p := peval_cons r 0 p

theorem peval_replicate_zero_append (r n : Nat) (p : List Nat) : peval r (List.replicate n 0 ++ p) = peval r p := by
  induction n with
  | zero => rfl
  | succ n ih => rw [List.replicate_succ, List.cons_append, peval_zero_cons, ih]

theorem peval_replicate_zero (x n : Nat) : peval x (List.replicate n 0) = 0 := by
  have := peval_replicate_zero_append x n []
  rwa [List.append_nil] at this

theorem peval_zeros {m : List Nat} (h : ∀ c ∈ m, c = 0) (x : Nat) : peval x m = 0 := by
  rw [List.eq_replicate_iff.mpr ⟨rfl, h⟩, peval_replicate_zero]

theorem pevalAcc_eq {r acc : Nat} (hr : r < 256) (hacc : acc < 256) {p : List Nat} (hp : Bytes p) :
    pevalAcc r acc p = gfmul acc (gfpow r p.length) ^^^ peval r p := by
  induction p generalizing acc with
  | nil => simp [gfpow, peval_eq]
  | cons a p ih =>
    have hR := gfpow_lt r p.length
    -- `(acc·r + a)·rⁿ + p(r) = acc·(rⁿ·r) + (a·rⁿ + p(r))`
    rw [pevalAcc_cons, ih (horner_lt hacc hp.head) hp.tail, peval_cons, ih hp.head hp.tail,
      List.length_cons, gfpow, gfmul_xor_left (gfmul_lt _ hacc) hp.head hR, gfmul_assoc hacc hr hR, gfmul_comm hr hR,
      Nat.xor_assoc]

theorem peval_cons_eq {r a : Nat} (hr : r < 256) (ha : a < 256) {p : List Nat} (hp : Bytes p) :
    peval r (a :: p) = gfmul a (gfpow r p.length) ^^^ peval r p := by
  rw [peval_cons, pevalAcc_eq hr ha hp]

theorem peval_zipWith_xor {r : Nat} (hr : r < 256) {p q : List Nat} (hp : Bytes p) (hq : Bytes q)
    (hl : p.length = q.length) : peval r (List.zipWith (· ^^^ ·) p q) = peval r p ^^^ peval r q := by
  induction p generalizing q with
  | nil => rw [List.eq_nil_of_length_eq_zero hl.symm]; exact (Nat.xor_self _).symm
  | cons x p ih =>
    cases q with
    | nil => simp at hl
    | cons y q =>
      have hl' : p.length = q.length := Nat.succ.inj hl
      -- leading terms `(x + y)·rⁿ = x·rⁿ + y·rⁿ`, the rest by `ih`
      rw [List.zipWith_cons_cons, peval_cons_eq hr (xor_lt_256 hp.head hq.head) (hp.tail.zipWith_xor hq.tail),
        peval_cons_eq hr hp.head hp.tail, peval_cons_eq hr hq.head hq.tail, ih hp.tail hq.tail hl',
        List.length_zipWith, ← hl', Nat.min_self, gfmul_xor_left hp.head hq.head (gfpow_lt _ _)]
      ac_rfl

theorem Bytes.map_gfmul {s : Nat} (hs : s < 256) (p : List Nat) : Bytes (p.map (gfmul s)) := by
  intro c hc
  obtain ⟨a, _, rfl⟩ := List.mem_map.mp hc
  exact gfmul_lt _ hs

theorem peval_map_gfmul {r s : Nat} (hr : r < 256) (hs : s < 256) {p : List Nat} (hp : Bytes p) :
    peval r (p.map (gfmul s)) = gfmul s (peval r p) := by
  induction p with
  | nil => exact (gfmul_zero s).symm
  | cons a p ih =>
    rw [List.map_cons, peval_cons_eq hr (gfmul_lt _ hs) (Bytes.map_gfmul hs p), peval_cons_eq hr hp.head hp.tail,
      ih hp.tail, List.length_map, gfmul_xor_right, gfmul_assoc hs hp.head (gfpow_lt _ _)]

theorem peval_pmulLin {r root : Nat} (hr : r < 256) (hroot : root < 256) {p : List Nat} (hp : Bytes p) :
    peval r (pmulLin p root) = gfmul (peval r p) (r ^^^ root) := by
  have h1 : peval r (p ++ [0]) = gfmul (peval r p) r := by
    rw [peval_append, pevalAcc_cons, pevalAcc_nil, Nat.xor_zero]
  rw [pmulLin, peval_zipWith_xor hr (hp.append (Bytes.cons (by omega) Bytes.nil))
      (Bytes.cons (by omega) (Bytes.map_gfmul hroot p)) (by simp),
    h1, peval_zero_cons, peval_map_gfmul hr hroot hp, gfmul_comm hroot (peval_lt hp), gfmul_xor_right]

theorem pmulLin_bytes {p : List Nat} (hp : Bytes p) {root : Nat} (hroot : root < 256) : Bytes (pmulLin p root) :=
  (hp.append (Bytes.cons (by omega) Bytes.nil)).zipWith_xor (Bytes.cons (by omega) (Bytes.map_gfmul hroot p))

theorem isCodeword_iff {e : Nat} {cw : List Nat} :
    isCodeword e cw = true ↔ ∀ i, i < e → peval (gfpow alpha i) cw = 0 := by
  simp only [isCodeword, List.all_eq_true, List.mem_range, beq_iff_eq]

theorem generator_eq_cons (e : Nat) : ∃ gt, generator e = 1 :: gt ∧ gt.length = e := by
  induction e with
  | zero => exact ⟨[], rfl, rfl⟩
  | succ e ih =>
    obtain ⟨gt, h, hl⟩ := ih
    exact ⟨List.zipWith (· ^^^ ·) (gt ++ [0]) ((1 :: gt).map (gfmul (gfpow alpha e))), by rw [generator, h]; rfl,
      by simp [hl]⟩

theorem generator_bytes (e : Nat) : Bytes (generator e) := by
  induction e with
  | zero => exact Bytes.cons (by omega) Bytes.nil
  | succ e ih => exact pmulLin_bytes ih (gfpow_lt _ _)

theorem generator_root {e i : Nat} (hi : i < e) : peval (gfpow alpha i) (generator e) = 0 := by
  induction e with
  | zero => omega
  | succ e ih =>
    rw [generator, peval_pmulLin (gfpow_lt _ _) (gfpow_lt _ _) (generator_bytes e)]
    by_cases h : i < e
    · rw [ih h, gfmul_zero_left]
    · rw [show i = e by omega, Nat.xor_self, gfmul_zero]

theorem stripZ_spec (l : List Nat) : ∃ k, l = List.replicate k 0 ++ Model.stripZ l := by
  fun_induction Model.stripZ l with
  | case1 => exact ⟨0, rfl⟩
  | case2 a => exact ⟨0, rfl⟩
  | case3 a b t h => exact ⟨0, rfl⟩
  | case4 a b t h ih =>
    obtain ⟨k, hk⟩ := ih
    have ha : a = 0 := by simpa using h
    exact ⟨k + 1, by rw [List.replicate_succ, List.cons_append, ← hk, ha]⟩

theorem stripZ_bytes {l : List Nat} (h : Bytes l) : Bytes (Model.stripZ l) := by
  obtain ⟨k, hk⟩ := stripZ_spec l
  intro c hc
  exact h c (hk ▸ List.mem_append_right _ hc)

theorem stripZ_length_le (l : List Nat) : (Model.stripZ l).length ≤ l.length := by
  obtain ⟨k, hk⟩ := stripZ_spec l
  have := congrArg List.length hk
  rw [List.length_append] at this
  omega

theorem stripZ_ne_nil {l : List Nat} (h : l ≠ []) : Model.stripZ l ≠ [] := by
  fun_induction Model.stripZ l with
  | case1 => exact absurd rfl h
  | case2 a => simp
  | case3 a b t h => simp
  | case4 a b t h ih => exact ih (by simp)

theorem stripZ_head_zero {l : List Nat} (h : (Model.stripZ l).head? = some 0) : Model.stripZ l = [0] := by
  fun_induction Model.stripZ l with
  | case1 => simp at h
  | case2 a => simpa using h
  | case3 a b t h' => simp at h; exact absurd h h'
  | case4 a b t h' ih => exact ih h

theorem stripZ_cons_ne_zero {a : Nat} (t : List Nat) (h : a ≠ 0) : Model.stripZ (a :: t) = a :: t := by
  cases t with
  | nil => rfl
  | cons b t => simp [Model.stripZ, h]

theorem stripZ_zero_cons {t : List Nat} (h : t ≠ []) : Model.stripZ (0 :: t) = Model.stripZ t := by
  cases t with
  | nil => exact absurd rfl h
  | cons b t => simp [Model.stripZ]

theorem peval_stripZ (r : Nat) (l : List Nat) : peval r (Model.stripZ l) = peval r l := by
  obtain ⟨k, hk⟩ := stripZ_spec l
  rw [← peval_replicate_zero_append r k, ← hk]

/-- `self - s·other·x^k` on coefficient lists (`other` aligned at the front): what one pass of `__mod__` builds -/
def subMul (s : Nat) (xs ys : List Nat) : List Nat :=
  List.zipWith (· ^^^ ·) xs (ys.map (gfmul s) ++ List.replicate (xs.length - ys.length) 0)

theorem subMul_length (s : Nat) {xs ys : List Nat} (h : ys.length ≤ xs.length) : (subMul s xs ys).length = xs.length := by
  simp only [subMul, List.length_zipWith, List.length_append, List.length_map, List.length_replicate]; omega

theorem subMul_bytes {s : Nat} {xs : List Nat} (hs : s < 256) (hx : Bytes xs) (ys : List Nat) : Bytes (subMul s xs ys) :=
  hx.zipWith_xor ((Bytes.map_gfmul hs ys).append (Bytes.replicate_zero _))

theorem peval_subMul {r s : Nat} {xs ys : List Nat} (hr : r < 256) (hs : s < 256) (hx : Bytes xs) (hy : Bytes ys)
    (hlen : ys.length ≤ xs.length) (hroot : peval r ys = 0) : peval r (subMul s xs ys) = peval r xs := by
  rw [subMul, peval_zipWith_xor hr hx ((Bytes.map_gfmul hs ys).append (Bytes.replicate_zero _)) (by simp; omega),
    peval_append, peval_map_gfmul hr hs hy, hroot, gfmul_zero, ← peval_eq, peval_replicate_zero, Nat.xor_zero]

/-- non-zero bytes (what `glog` accepts) -/
def NzBytes (l : List Nat) : Prop := ∀ c ∈ l, 1 ≤ c ∧ c < 256

theorem NzBytes.bytes {l : List Nat} (h : NzBytes l) : Bytes l := fun c hc => (h c hc).2

theorem modStep_ok {s : Nat} (hs1 : 1 ≤ s) (hs : s < 256) (xs : List Nat) {ys : List Nat} (hy : NzBytes ys) :
    Model.modStep (lg s : Int) xs ys = .ok (List.zipWith (fun x y => x ^^^ gfmul s y) xs ys) := by
  induction xs generalizing ys with
  | nil => cases ys <;> rfl
  | cons x xs ih =>
    cases ys with
    | nil => rfl
    | cons y ys =>
      have hy0 := hy y (List.mem_cons_self ..)
      -- head: `gexp (glog y + lg s) = y·s = s·y`; tail: `ih`
      simp only [Model.modStep, glog_eq hy0.1 hy0.2, R.bind_ok, gexp_add_lg hy0.1 hy0.2 hs1 hs, gfmul_comm hy0.2 hs,
        ih fun c hc => hy c (List.mem_cons_of_mem _ hc), R.pure_eq, List.zipWith_cons_cons]

/-- what `__mod__` assembles (`zip` stops at the shorter list, the rest of `self` is appended) is `subMul` -/
theorem zipWith_append_drop (s : Nat) {xs ys : List Nat} (hlen : ys.length ≤ xs.length) :
    List.zipWith (fun x y => x ^^^ gfmul s y) xs ys ++ xs.drop ys.length = subMul s xs ys := by
  induction ys generalizing xs with
  | nil =>
    induction xs with
    | nil => rfl
    | cons x xs ih => simpa [subMul, List.replicate_succ] using ih
  | cons y ys ih =>
    cases xs with
    | nil => simp at hlen
    | cons x xs => simpa [subMul] using ih (Nat.le_of_succ_le_succ hlen)

theorem polyMk_eq {p : List Nat} (hp : p ≠ []) (k : Nat) :
    Model.polyMk p k = .ok (Model.stripZ p ++ List.replicate k 0) := by
  simp [Model.polyMk, hp]

/-- a constructed polynomial with a leading zero is zero -/
theorem polyMk_head_zero {p : List Nat} (hp : p ≠ []) {k : Nat}
    (h : (Model.stripZ p ++ List.replicate k 0).head? = some 0) : ∀ c ∈ Model.stripZ p ++ List.replicate k 0, c = 0 := by
  have h0 : (Model.stripZ p).head? = some 0 := by
    cases hs : Model.stripZ p with
    | nil => exact absurd hs (stripZ_ne_nil hp)
    | cons a t => rw [hs] at h; exact h
  rw [stripZ_head_zero h0]
  intro c hc
  rcases List.mem_append.mp hc with hc | hc
  · exact List.mem_singleton.mp hc
  · exact (List.mem_replicate.mp hc).2

theorem subMul_cons (s : Nat) (st gt : List Nat) : subMul s (s :: st) (1 :: gt) = 0 :: subMul s st gt := by
  simp [subMul]

/-- one round of `__mod__` by a monic `g`: a dividend with leading coefficient `s ≠ 0`, no shorter than `g`, becomes
    `self - s·g·x^k` (`k` the difference of the degrees) stripped of its leading zeros -/
theorem polyMod_succ {gt : List Nat} (hg : NzBytes (1 :: gt)) {s : Nat} {st : List Nat} (hs0 : s ≠ 0) (hs : s < 256)
    (hlen : gt.length ≤ st.length) (fuel : Nat) :
    Model.polyMod (fuel + 1) (s :: st) (1 :: gt) =
      Model.polyMod fuel (Model.stripZ (subMul s (s :: st) (1 :: gt))) (1 :: gt) := by
  have hs1 : 1 ≤ s := by omega
  have hlen' : (1 :: gt).length ≤ (s :: st).length := Nat.succ_le_succ hlen
  have hne : subMul s (s :: st) (1 :: gt) ≠ [] := by
    rw [subMul_cons]
    exact List.cons_ne_nil _ _
  rw [Model.polyMod, if_neg (by omega)]
  simp only [idx, List.getElem?_cons_zero, R.bind_ok]
  -- `ratio = glog(s) - glog(1) = glog(s)`
  rw [if_neg hs0, glog_eq hs1 hs, R.bind_ok, glog_eq (by omega) (by omega), R.bind_ok, lg_one, Int.ofNat_zero,
    Int.sub_zero, modStep_ok hs1 hs _ hg, R.bind_ok, zipWith_append_drop s hlen', polyMk_eq hne, List.replicate_zero,
    List.append_nil, R.bind_ok]

/-- `Polynomial.__mod__` by a monic divisor `g = 1 :: gt` (`gt ≠ []`, no zero coefficient, bytes) on a byte list `self`
    with enough fuel: it returns a byte list `r` that agrees with `self` at every root of `g`; `r` is shorter than `g`,
    except when `self` starts with a zero (D1 fix: it is then returned unchanged). -/
theorem polyMod_spec {gt : List Nat} (hgt : gt ≠ []) (hg : NzBytes (1 :: gt)) {fuel : Nat} {self : List Nat}
    (hfuel : self.length < fuel) (hself : Bytes self) :
    ∃ r, Model.polyMod fuel self (1 :: gt) = .ok r ∧ Bytes r ∧
      (∀ x, x < 256 → peval x (1 :: gt) = 0 → peval x r = peval x self) ∧
      (r.length < (1 :: gt).length ∨ (r = self ∧ self.head? = some 0)) := by
  induction fuel generalizing self with
  | zero => omega
  | succ fuel ih =>
    by_cases hlt : self.length < (1 :: gt).length
    · exact ⟨self, by rw [Model.polyMod, if_pos hlt], hself, fun _ _ _ => rfl, Or.inl hlt⟩
    cases self with
    | nil => exact absurd (Nat.succ_pos _) hlt
    | cons s st =>
    by_cases hs0 : s = 0
    · exact ⟨s :: st, by rw [Model.polyMod, if_neg hlt]; simp [idx, hs0], hself, fun _ _ _ => rfl,
        Or.inr ⟨rfl, by rw [hs0]; rfl⟩⟩
    simp only [List.length_cons, Nat.add_lt_add_iff_right, Nat.not_lt] at hlt hfuel
    rw [polyMod_succ hg hs0 hself.head hlt]
    -- the new dividend is shorter: its leading coefficient has cancelled, and `gt ≠ []` leaves something behind it
    have hshort : (Model.stripZ (subMul s (s :: st) (1 :: gt))).length < fuel := by
      have hl := subMul_length s hlt
      have hne : subMul s st gt ≠ [] :=
        List.ne_nil_of_length_pos (hl ▸ Nat.lt_of_lt_of_le (List.length_pos_iff.mpr hgt) hlt)
      have := stripZ_length_le (subMul s st gt)
      rw [subMul_cons, stripZ_zero_cons hne]
      omega
    obtain ⟨r, hr, hrb, hrv, hrl⟩ := ih hshort (stripZ_bytes (subMul_bytes hself.head hself _))
    refine ⟨r, hr, hrb, fun x hx hroot => ?_, Or.inl ?_⟩
    · rw [hrv x hx hroot, peval_stripZ, peval_subMul hx hself.head hself hg.bytes (Nat.succ_le_succ hlt) hroot]
    · rcases hrl with h | ⟨h1, h2⟩
      · exact h
      · have := List.length_pos_iff.mpr hgt
        rw [h1, stripZ_head_zero h2]
        simp only [List.length_cons, List.length_nil]; omega

/-- the `modIndex` loop of `create_bytes` -/
def ecExtract (e : Nat) (m : List Nat) : List Nat :=
  (List.range e).map fun (i : Nat) =>
    let modIndex : Int := (i : Int) + ((m.length : Int) - (e : Int))
    if modIndex ≥ 0 then m.getD modIndex.toNat 0 else 0

theorem ecExtract_length (e : Nat) (m : List Nat) : (ecExtract e m).length = e := by simp [ecExtract]

theorem ecExtract_eq (e : Nat) (m : List Nat) :
    ecExtract e m = List.replicate (e - m.length) 0 ++ m.drop (m.length - e) := by
  apply List.ext_getElem
  · simp only [ecExtract_length, List.length_append, List.length_replicate, List.length_drop]; omega
  · intro i h1 _
    rw [ecExtract_length] at h1
    simp only [ecExtract, List.getElem_map, List.getElem_range, List.getElem_append, List.length_replicate,
      List.getElem_replicate, List.getElem_drop]
    by_cases hi : i < e - m.length
    · rw [dif_pos hi, if_neg (by omega)]
    · rw [dif_neg hi, if_pos (by omega)]
      have hj : ((i : Int) + ((m.length : Int) - (e : Int))).toNat = m.length - e + (i - (e - m.length)) := by omega
      rw [hj, List.getD_eq_getElem?_getD, List.getElem?_eq_getElem (by omega), Option.getD_some]

theorem ecExtract_bytes {e : Nat} {m : List Nat} (hm : Bytes m) : Bytes (ecExtract e m) := by
  rw [ecExtract_eq]
  exact (Bytes.replicate_zero _).append fun c hc => hm c (List.mem_of_mem_drop hc)

theorem peval_ecExtract {e : Nat} {m : List Nat} (h : ∀ c ∈ m.take (m.length - e), c = 0) (x : Nat) :
    peval x (ecExtract e m) = peval x m := by
  conv => rhs; rw [← List.take_append_drop (m.length - e) m]
  rw [ecExtract_eq, peval_append, peval_append, peval_zeros h, peval_replicate_zero]

/-- data followed by the remainder of `data·x^e` vanishes wherever the remainder agrees with `data·x^e` -/
theorem peval_data_append_ec {x : Nat} {dc ec : List Nat} (hx : x < 256) (hdc : Bytes dc) (hec : Bytes ec)
    (h : peval x ec = peval x (Model.stripZ dc ++ List.replicate ec.length 0)) : peval x (dc ++ ec) = 0 := by
  have hA : peval x dc < 256 := peval_lt hdc
  rw [peval_append, peval_stripZ, pevalAcc_eq hx hA (Bytes.replicate_zero _), peval_replicate_zero,
    List.length_replicate, Nat.xor_zero] at h
  rw [peval_append, pevalAcc_eq hx hA hec, h, Nat.xor_self]

theorem ecOfBlock_eq (dc : List Nat) (e : Nat) :
    Model.ecOfBlock dc e = (do
      let rsPoly ← Model.rsPolyFor e
      let rawPoly ← Model.polyMk dc (rsPoly.length - 1)
      let modPoly ← Model.polyMod (rawPoly.length + 1) rawPoly rsPoly
      pure (ecExtract e modPoly)) := rfl

/-- the block computation for any `e ≥ 1` for which the model's generator is the ISO one and has no zero coefficient
    (`glog` would raise on one): for EVERY data content (bytes, non-empty; all-zero and leading-zero blocks included) it
    returns `e` bytes that complete the data to a codeword -/
theorem ecOfBlock_codeword_of {e : Nat} (he1 : 1 ≤ e) (hrs : Model.rsPolyFor e = .ok (generator e))
    (hnz : ∀ c ∈ generator e, c ≠ 0) {dc : List Nat} (hne : dc ≠ []) (hb : Bytes dc) :
    ∃ ec, Model.ecOfBlock dc e = .ok ec ∧ ec.length = e ∧ Bytes ec ∧ Spec.isCodeword e (dc ++ ec) = true := by
  obtain ⟨gt, hgen, hgtlen⟩ := generator_eq_cons e
  have hgt : gt ≠ [] := List.ne_nil_of_length_pos (by omega)
  have hgnz : NzBytes (1 :: gt) := by
    intro c hc
    rw [← hgen] at hc
    exact ⟨Nat.pos_of_ne_zero (hnz c hc), generator_bytes e c hc⟩
  rw [hgen] at hrs
  have hraw : Model.polyMk dc ((1 :: gt).length - 1) = .ok (Model.stripZ dc ++ List.replicate e 0) := by
    rw [polyMk_eq hne, List.length_cons, Nat.add_sub_cancel, hgtlen]
  obtain ⟨r, hr, hrb, hrv, hrl⟩ := polyMod_spec hgt hgnz (Nat.lt_succ_self _)
    ((stripZ_bytes hb).append (Bytes.replicate_zero e))
  -- in front of its last `e` coefficients the remainder has nothing, or (D1) it is the zero dividend, returned unchanged
  have hz : ∀ c ∈ r.take (r.length - e), c = 0 := by
    rcases hrl with h | ⟨h1, h2⟩
    · rw [List.length_cons, hgtlen] at h
      rw [Nat.sub_eq_zero_of_le (Nat.le_of_lt_succ h)]
      exact fun c hc => absurd hc List.not_mem_nil
    · rw [h1]
      exact fun c hc => polyMk_head_zero hne h2 c (List.mem_of_mem_take hc)
  refine ⟨ecExtract e r, ?_, ecExtract_length e r, ecExtract_bytes hrb, ?_⟩
  · rw [ecOfBlock_eq, hrs, R.bind_ok, hraw, R.bind_ok, hr, R.bind_ok, R.pure_eq]
  · rw [isCodeword_iff]
    intro i hi
    have hx : gfpow alpha i < 256 := gfpow_lt _ _
    have hroot : peval (gfpow alpha i) (1 :: gt) = 0 := by rw [← hgen]; exact generator_root hi
    apply peval_data_append_ec hx hb (ecExtract_bytes hrb)
    rw [peval_ecExtract hz, ecExtract_length, hrv _ hx hroot]

end QR.Proofs
