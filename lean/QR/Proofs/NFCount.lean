import QR.Proofs.GeomLemmas
import QR.Proofs.Traversal
/-
C05, the count: for every version 1..40 the number of non-function modules is `Spec.rawModules v`, and the zig-zag
traversal meets every one of them exactly once.

The function modules are counted, for a symbol of any size n: they are cut into ten sets of cells (`baseB`,
`alignPieces`), each the product of a set of rows and a set of columns, so that its size is a product of two counts
over `List.range n` (`countP_grid`); the ten are disjoint, so the sizes add up (`countP_or`).  Of the 40 rows of the
alignment table this needs that they run from 6 to n - 7 in steps of at least 7 (`alignmentCentres_shape`, by unfolding;
`alignmentCentres_sorted`, evaluated).
-/
namespace QR.GeoC

/-- the cells of an n x n square, row by row -/
def grid (n : Nat) : List (Nat × Nat) := (List.range n).flatMap fun r => (List.range n).map fun c => (r, c)

theorem mem_grid (n r c : Nat) : (r, c) ∈ grid n ↔ r < n ∧ c < n := by
  simp only [grid, List.mem_flatMap, List.mem_map, List.mem_range, Prod.mk.injEq]
  constructor
  · rintro ⟨r', hr', c', hc', rfl, rfl⟩; exact ⟨hr', hc'⟩
  · rintro ⟨hr, hc⟩; exact ⟨r, hr, c, hc, rfl, rfl⟩

theorem grid_nodup (n : Nat) : (grid n).Nodup := by
  unfold grid List.Nodup
  rw [List.pairwise_flatMap]
  constructor
  · intro r _
    rw [List.pairwise_map]
    exact (List.nodup_range (n := n)).imp fun h e => h (by simpa using e)
  · refine (List.nodup_range (n := n)).imp ?_
    intro r1 r2 hne x hx y hy
    simp only [List.mem_map] at hx hy
    obtain ⟨_, _, rfl⟩ := hx
    obtain ⟨_, _, rfl⟩ := hy
    intro e
    exact hne (Prod.mk.inj e).1

def seg (a w x : Nat) : Bool := decide (a ≤ x) && decide (x < a + w)

theorem seg_iff {a w x : Nat} : seg a w x = true ↔ a ≤ x ∧ x < a + w := by
  simp only [seg, Bool.and_eq_true, decide_eq_true_eq]

/-- `List.range n` consists of a part before `a`, the `w` numbers from `a` on, and a part behind them -/
theorem countP_seg {a w n : Nat} (h : a + w ≤ n) : (List.range n).countP (seg a w) = w := by
  obtain ⟨k, rfl⟩ := Nat.exists_eq_add_of_le h
  rw [List.range_eq_range', ← List.range'_append_1, ← List.range'_append_1, List.countP_append, List.countP_append,
    List.countP_eq_zero.2, List.countP_eq_length.2, List.countP_eq_zero.2, List.length_range']
  · omega
  all_goals
    intro x hx
    rw [List.mem_range'_1] at hx
    rw [seg_iff]
    omega

theorem countP_grid (n : Nat) (A B : Nat → Bool) :
    (grid n).countP (fun p => A p.1 && B p.2) = (List.range n).countP A * (List.range n).countP B := by
  suffices h : ∀ l m : List Nat, (l.flatMap fun r => m.map fun c => (r, c)).countP (fun p => A p.1 && B p.2) =
      l.countP A * m.countP B from h _ _
  intro l m
  induction l with
  | nil => simp
  | cons r l ih =>
    rw [List.flatMap_cons, List.countP_append, ih, List.countP_cons, List.countP_map, Nat.add_mul, Nat.add_comm]
    cases h : A r <;> simp [Function.comp_def, h]

theorem length_grid (n : Nat) : (grid n).length = n * n := by
  simpa using countP_grid n (fun _ => true) (fun _ => true)

/-- `x` lies in the segment `lo, w` and within distance 2 of a member of `cs` -/
def near (lo w : Nat) (cs : List Nat) (x : Nat) : Bool := seg lo w x && cs.any fun a => seg (a - 2) 5 x

theorem near_iff {lo w x : Nat} {cs : List Nat} :
    near lo w cs x = true ↔ (lo ≤ x ∧ x < lo + w) ∧ ∃ a ∈ cs, a - 2 ≤ x ∧ x < a - 2 + 5 := by
  simp only [near, Bool.and_eq_true, seg_iff, List.any_eq_true]

/-- windows of width 5 around coordinates at least 5 apart do not overlap -/
theorem countP_near {n lo w : Nat} {cs : List Nat} (hs : cs.Pairwise fun a b => a + 5 ≤ b)
    (hb : ∀ a ∈ cs, lo + 2 ≤ a ∧ a + 3 ≤ lo + w) (hn : lo + w ≤ n) :
    (List.range n).countP (near lo w cs) = 5 * cs.length := by
  have hull : ∀ x ∈ List.range n, near lo w cs x = true ↔ (cs.any fun a => seg (a - 2) 5 x) = true := by
    intro x _
    simp only [near_iff, List.any_eq_true, seg_iff, and_iff_right_iff_imp]
    rintro ⟨a, ha, _⟩
    have := hb a ha
    omega
  rw [List.countP_congr hull]
  clear hull
  induction cs with
  | nil => simp
  | cons a cs ih =>
    rw [List.pairwise_cons] at hs
    have ha := hb a List.mem_cons_self
    simp only [List.any_cons]
    rw [countP_or, countP_seg, ih hs.2 fun b hb' => hb b (List.mem_cons_of_mem _ hb'), List.length_cons]
    · omega
    · omega
    · intro x _ h1 h2
      obtain ⟨b, hb', h2⟩ := List.any_eq_true.1 h2
      have := hs.1 b hb'
      rw [seg_iff] at h1 h2
      omega

/-- the function modules other than alignment patterns, as seven rectangles: the corners (finder patterns, separators,
    format information, dark module), the timing patterns between them, and version information blocks of `h` by 3
    modules -/
def baseB (n h : Nat) (p : Nat × Nat) : Bool :=
  (seg 0 9 p.1 && seg 0 9 p.2 || seg 0 9 p.1 && seg (n - 8) 8 p.2 || seg (n - 8) 8 p.1 && seg 0 9 p.2 ||
    seg 6 1 p.1 && seg 9 (n - 17) p.2 || seg 9 (n - 17) p.1 && seg 6 1 p.2) ||
  (seg 0 h p.1 && seg (n - 11) 3 p.2 || seg (n - 11) 3 p.1 && seg 0 h p.2)

theorem countP_baseB {n h : Nat} (hn : 21 ≤ n) (hh : h ≤ 6) : (grid n).countP (baseB n h) = 2 * n + 191 + 6 * h := by
  unfold baseB
  rw [countP_or, countP_or, countP_or, countP_or, countP_or, countP_or]
  · simp (disch := omega) only [countP_grid, countP_seg]
    omega
  all_goals
    intro p _
    simp only [Bool.or_eq_true, Bool.and_eq_true, seg_iff]
    omega

/-- `Spec.inAlignment` in an n x n symbol with the centre coordinates `cs` -/
def alignB (n : Nat) (cs : List Nat) (p : Nat × Nat) : Bool :=
  cs.any fun r0 => decide (Spec.dist p.1 r0 ≤ 2) && cs.any fun c0 =>
    decide (Spec.dist p.2 c0 ≤ 2) && !((r0 == 6 && c0 == 6) || (r0 == 6 && c0 == n - 7) || (r0 == n - 7 && c0 == 6))

theorem alignB_iff {n : Nat} {cs : List Nat} {p : Nat × Nat} :
    alignB n cs p = true ↔ ∃ r0 ∈ cs, (p.1 ≤ r0 + 2 ∧ r0 ≤ p.1 + 2) ∧ ∃ c0 ∈ cs, (p.2 ≤ c0 + 2 ∧ c0 ≤ p.2 + 2) ∧
      ((r0 = 6 → c0 ≠ 6) ∧ (r0 = 6 → c0 ≠ n - 7)) ∧ (r0 = n - 7 → c0 ≠ 6) := by
  simp only [alignB, List.any_eq_true, Bool.and_eq_true, Bool.not_eq_true', Bool.or_eq_false_iff, Bool.and_eq_false_imp,
    beq_iff_eq, beq_eq_false_iff_ne, decide_eq_true_eq, Spec.dist_le_iff, ne_eq]

/-- 4, 5, 7, 8: within distance 2 of 6, apart from 6 -/
def off6 (x : Nat) : Bool := seg 4 2 x || seg 7 2 x

theorem off6_of_ne {x : Nat} (h : seg 4 5 x = true) (h6 : x ≠ 6) : off6 x = true := by
  simp only [off6, Bool.or_eq_true, seg_iff] at h ⊢
  omega

/-- the cells of the alignment patterns with centre coordinates from `6 :: (mid ++ [n - 7])` that are not timing
    cells: the patterns with both coordinates other than 6, and four rows (columns) of those in rows (columns) 4 to 8 -/
def alignPieces (n : Nat) (mid : List Nat) (p : Nat × Nat) : Bool :=
  near 9 (n - 9) (mid ++ [n - 7]) p.1 && near 9 (n - 9) (mid ++ [n - 7]) p.2 ||
  off6 p.1 && near 9 (n - 20) mid p.2 || near 9 (n - 20) mid p.1 && off6 p.2

theorem countP_alignPieces {n : Nat} {mid : List Nat} (hn : 21 ≤ n)
    (hs : (6 :: (mid ++ [n - 7])).Pairwise fun a b => a + 7 ≤ b) :
    (grid n).countP (alignPieces n mid) = 5 * (mid.length + 1) * (5 * (mid.length + 1)) + 40 * mid.length := by
  obtain ⟨hW, hM⟩ := centres_bounds hn hs
  have hs5 : (mid ++ [n - 7]).Pairwise fun a b => a + 5 ≤ b :=
    (List.pairwise_cons.1 hs).2.imp (by omega)
  have hlast : (List.range n).countP (near 9 (n - 9) (mid ++ [n - 7])) = 5 * (mid.length + 1) := by
    rw [countP_near hs5, List.length_append, List.length_singleton]
    · intro a ha
      have := hW a ha
      omega
    · omega
  have hmid : (List.range n).countP (near 9 (n - 20) mid) = 5 * mid.length := by
    rw [countP_near (List.pairwise_append.1 hs5).1]
    · intro a ha
      have := hW a (List.mem_append_left _ ha)
      have := hM a ha
      omega
    · omega
  have h4 : (List.range n).countP off6 = 4 := by
    unfold off6
    rw [countP_or, countP_seg, countP_seg]
    · omega
    · omega
    · intro x _
      simp only [seg_iff]
      omega
  unfold alignPieces
  rw [countP_or, countP_or, countP_grid, countP_grid, countP_grid, hlast, hmid, h4]
  · omega
  all_goals
    intro p _
    simp only [off6, near, Bool.or_eq_true, Bool.and_eq_true, seg_iff]
    omega

/-- a window around a member of `6 :: (mid ++ [n - 7])`: around 6, or around another member, that is the last one
    or one of `mid` -/
theorem window_cases {n : Nat} {mid : List Nat} (hn : 21 ≤ n)
    (hs : (6 :: (mid ++ [n - 7])).Pairwise fun a b => a + 7 ≤ b) {a x : Nat}
    (ha : a ∈ 6 :: (mid ++ [n - 7])) (hw : x ≤ a + 2 ∧ a ≤ x + 2) :
    a = 6 ∧ seg 4 5 x = true ∨
      a ≠ 6 ∧ near 9 (n - 9) (mid ++ [n - 7]) x = true ∧ (a = n - 7 ∨ near 9 (n - 20) mid x = true) := by
  obtain ⟨hW, hM⟩ := centres_bounds hn hs
  rcases List.mem_cons.1 ha with rfl | ha
  · exact Or.inl ⟨rfl, seg_iff.2 (by omega)⟩
  · have := hW a ha
    refine Or.inr ⟨by omega, near_iff.2 ⟨by omega, a, ha, by omega⟩, ?_⟩
    rcases List.mem_append.1 ha with h | h
    · have := hM a h
      exact Or.inr (near_iff.2 ⟨by omega, a, h, by omega⟩)
    · exact Or.inl (List.mem_singleton.1 h)

/-- alignment patterns and timing patterns share the timing cells of the patterns centred in row or column 6 -/
theorem baseB_or_alignB {n h : Nat} {mid : List Nat} (hn : 21 ≤ n)
    (hs : (6 :: (mid ++ [n - 7])).Pairwise fun a b => a + 7 ≤ b) {p : Nat × Nat} (hr : p.1 < n) (hc : p.2 < n) :
    (baseB n h p || alignB n (6 :: (mid ++ [n - 7])) p) = true ↔ (baseB n h p || alignPieces n mid p) = true := by
  rw [Bool.or_eq_true, Bool.or_eq_true]
  constructor
  · rintro (hb | ha)
    · exact Or.inl hb
    obtain ⟨r0, hr0, hwr, c0, hc0, hwc, hx⟩ := alignB_iff.1 ha
    rcases window_cases hn hs hr0 hwr with ⟨rfl, h6r⟩ | ⟨hr6, hlr, hmr⟩ <;>
      rcases window_cases hn hs hc0 hwc with ⟨rfl, h6c⟩ | ⟨hc6, hlc, hmc⟩
    · exact absurd rfl (hx.1.1 rfl)
    · rcases hmc with rfl | hmc
      · exact absurd rfl (hx.1.2 rfl)
      have hull := (near_iff.1 hmc).1
      by_cases h6 : p.1 = 6
      · have ht : (seg 6 1 p.1 && seg 9 (n - 17) p.2) = true := by
          rw [Bool.and_eq_true, seg_iff, seg_iff]
          omega
        exact Or.inl (by simp only [baseB, ht, Bool.or_true, Bool.true_or])
      · exact Or.inr (by simp only [alignPieces, off6_of_ne h6r h6, hmc, Bool.and_self, Bool.or_true, Bool.true_or])
    · rcases hmr with rfl | hmr
      · exact absurd rfl (hx.2 rfl)
      have hull := (near_iff.1 hmr).1
      by_cases h6 : p.2 = 6
      · have ht : (seg 9 (n - 17) p.1 && seg 6 1 p.2) = true := by
          rw [Bool.and_eq_true, seg_iff, seg_iff]
          omega
        exact Or.inl (by simp only [baseB, ht, Bool.or_true, Bool.true_or])
      · exact Or.inr (by simp only [alignPieces, off6_of_ne h6c h6, hmr, Bool.and_self, Bool.or_true])
    · exact Or.inr (by simp only [alignPieces, hlr, hlc, Bool.and_self, Bool.true_or])
  · rintro (hb | ha)
    · exact Or.inl hb
    refine Or.inr (alignB_iff.2 ?_)
    simp only [alignPieces, off6, Bool.or_eq_true, Bool.and_eq_true, seg_iff] at ha
    rcases ha with (⟨hr', hc'⟩ | ⟨hr', hc'⟩) | ⟨hr', hc'⟩
    · obtain ⟨_, r0, hr0, hwr⟩ := near_iff.1 hr'
      obtain ⟨_, c0, hc0, hwc⟩ := near_iff.1 hc'
      exact ⟨r0, List.mem_cons_of_mem _ hr0, by omega, c0, List.mem_cons_of_mem _ hc0, by omega, by omega⟩
    · obtain ⟨_, c0, hc0, hwc⟩ := near_iff.1 hc'
      exact ⟨6, List.mem_cons_self, by omega, c0, List.mem_cons_of_mem _ (List.mem_append_left _ hc0), by omega, by omega⟩
    · obtain ⟨_, r0, hr0, hwr⟩ := near_iff.1 hr'
      exact ⟨r0, List.mem_cons_of_mem _ (List.mem_append_left _ hr0), by omega, 6, List.mem_cons_self, by omega, by omega⟩

/-- **the count of function modules**, for any size n, any height `h ≤ 6` of the version information blocks and any
    centre coordinates from 6 to n - 7 in steps of at least 7 (5 keeps the alignment patterns apart; 7 keeps those of
    the last but one coordinate clear of the version information, which begins four modules before the last one) -/
theorem countP_function {n h : Nat} {mid : List Nat} (hn : 21 ≤ n) (hh : h ≤ 6)
    (hs : (6 :: (mid ++ [n - 7])).Pairwise fun a b => a + 7 ≤ b) :
    (grid n).countP (fun p => baseB n h p || alignB n (6 :: (mid ++ [n - 7])) p) =
      2 * n + 191 + 6 * h + (5 * (mid.length + 1) * (5 * (mid.length + 1)) + 40 * mid.length) := by
  rw [List.countP_congr fun p hp => baseB_or_alignB hn hs ((mem_grid n p.1 p.2).1 hp).1
    ((mem_grid n p.1 p.2).1 hp).2, countP_or, countP_baseB hn hh, countP_alignPieces hn hs]
  intro p _
  simp only [baseB, alignPieces, off6, near, Bool.or_eq_true, Bool.and_eq_true, seg_iff]
  omega

theorem isSome_ite_prop {α : Type} (p : Prop) [Decidable p] (o : Option α) :
    (if p then o else none).isSome = true ↔ p ∧ o.isSome = true := by
  by_cases h : p <;> simp [h]

theorem inAlignment_eq (v r c : Nat) :
    Spec.inAlignment v r c = alignB (Spec.size v) (Spec.alignmentCentres v) (r, c) := by
  rw [Bool.eq_iff_iff]
  unfold Spec.inAlignment Spec.alignOf alignB
  simp only [List.findSome?_isSome_iff, isSome_ite_prop, List.any_eq_true, Bool.and_eq_true,
    decide_eq_true_eq, Option.isSome_some, and_true, show Spec.size v - 7 = 4 * v + 10 from rfl]

/-- `Spec.isFunction` in the symbol of version `v`, `h` being the height of its version information blocks -/
theorem isFunction_eq {v h r c : Nat} (hv : 1 ≤ v) (hh : 7 ≤ v ∧ h = 6 ∨ v < 7 ∧ h = 0) (hr : r < Spec.size v)
    (hc : c < Spec.size v) :
    Spec.isFunction v r c = (baseB (Spec.size v) h (r, c) || alignB (Spec.size v) (Spec.alignmentCentres v) (r, c)) := by
  have hn := Spec.size_ge hv
  unfold Spec.isFunction
  simp only [inAlignment_eq, Bool.or_right_comm _ (alignB (Spec.size v) (Spec.alignmentCentres v) (r, c))]
  congr 1
  rw [Bool.eq_iff_iff]
  simp only [Spec.inTiming, Spec.isDarkModule, Spec.inFormat, Spec.inVersion, baseB, Bool.or_eq_true, Bool.and_eq_true,
    Bool.not_eq_true', ← Bool.not_eq_true, inFinderArea_iff_lin hn hr hc, seg_iff, beq_iff_eq, bne_iff_ne, ne_eq,
    decide_eq_true_eq, ge_iff_le]
  -- the corners and the timing patterns (`omega` needs five times the work here); the version information
  refine or_congr ?_ ?_
  · grind
  · omega

/-- the count of `countP_function` and the closed form `Spec.rawModules` add up to the number of modules -/
theorem rawModules_add : ∀ v, v ≤ 40 → 2 ≤ v →
    2 * Spec.size v + 191 + 6 * (if 7 ≤ v then 6 else 0) + (5 * (v / 7 + 1) * (5 * (v / 7 + 1)) + 40 * (v / 7)) +
      Spec.rawModules v = Spec.size v * Spec.size v := by
  decide

/-- the function modules of version `v`, counted by `countP_baseB` (version 1) and `countP_function` -/
theorem function_count (v : Nat) (h1 : 1 ≤ v) (h40 : v ≤ 40) :
    (grid (Spec.size v)).countP (fun p => Spec.isFunction v p.1 p.2) + Spec.rawModules v = Spec.size v * Spec.size v := by
  have hn := Spec.size_ge h1
  have hh : 7 ≤ v ∧ (if 7 ≤ v then 6 else 0) = 6 ∨ v < 7 ∧ (if 7 ≤ v then 6 else 0) = 0 := by
    split <;> omega
  rw [List.countP_congr fun p hp => Bool.eq_iff_iff.1
    (isFunction_eq h1 hh ((mem_grid _ p.1 p.2).1 hp).1 ((mem_grid _ p.1 p.2).1 hp).2)]
  by_cases h2 : 2 ≤ v
  · obtain ⟨mid, hcs, hlen⟩ := alignmentCentres_shape v h2
    have hs := alignmentCentres_sorted v h40 h1
    rw [hcs] at hs ⊢
    rw [countP_function hn (by omega) hs, hlen]
    exact rawModules_add v h40 h2
  · have hcs : Spec.alignmentCentres v = [] := by
      unfold Spec.alignmentCentres
      rw [if_pos (by omega)]
    simp only [hcs, alignB, List.any_nil, Bool.or_false]
    rw [countP_baseB hn (by omega)]
    obtain rfl : v = 1 := by omega
    decide

/-- **the count**: the number of cells (r, c), r, c < size v, with `isFunction v r c = false` is `rawModules v`
    (`grid n` lists every cell of the n x n square exactly once: `mem_grid`, `grid_nodup`) -/
theorem nonFunction_count (v : Nat) (h1 : 1 ≤ v) (h40 : v ≤ 40) :
    (grid (Spec.size v)).countP (fun p => !Spec.isFunction v p.1 p.2) = Spec.rawModules v := by
  have hF := function_count v h1 h40
  have hsum := List.length_eq_countP_add_countP (fun p => Spec.isFunction v p.1 p.2) (l := grid (Spec.size v))
  have hnot : ∀ p ∈ grid (Spec.size v),
      (decide ¬Spec.isFunction v p.1 p.2 = true) = true ↔ (!Spec.isFunction v p.1 p.2) = true := fun p _ => by simp
  rw [length_grid, List.countP_congr hnot] at hsum
  omega

/-- column 6 (vertical timing pattern and what it crosses) consists of function modules only, in every version -/
theorem col6_isFunction (v r : Nat) : Spec.isFunction v r 6 = true := by
  unfold Spec.isFunction Spec.inTiming
  simp only []
  cases Spec.inFinderArea (Spec.size v) r 6 <;> simp

/-- so a data module inside the symbol lies on the zig-zag -/
theorem mem_zigzag_of_not_isFunction {v r c : Nat} (hr : r < Spec.size v) (hc : c < Spec.size v)
    (hf : Spec.isFunction v r c = false) : (r, c) ∈ Spec.zigzag (Spec.size v) :=
  (mem_zigzag_iff _ (by unfold Spec.size; omega) (by unfold Spec.size; omega) r c).mpr
    ⟨hr, hc, fun e => by rw [e, col6_isFunction] at hf; cases hf⟩

theorem trav_perm_grid (n : Nat) (hodd : n % 2 = 1) (h7 : 7 ≤ n) :
    (Model.trav n).Perm ((grid n).filter fun p => p.2 != 6) := by
  rw [List.perm_ext_iff_of_nodup (trav_nodup n hodd) ((grid_nodup n).filter _)]
  intro ⟨r, c⟩
  rw [mem_trav_iff n hodd h7, List.mem_filter, mem_grid]
  simp only [bne_iff_ne, ne_eq, and_assoc]

theorem zigzag_countP (v : Nat) :
    (Spec.zigzag (Spec.size v)).countP (fun p => !Spec.isFunction v p.1 p.2) =
      (grid (Spec.size v)).countP (fun p => !Spec.isFunction v p.1 p.2) := by
  have hodd : Spec.size v % 2 = 1 := by unfold Spec.size; omega
  have h7 : 7 ≤ Spec.size v := by unfold Spec.size; omega
  rw [← trav_eq_zigzag_size, (trav_perm_grid _ hodd h7).countP_eq, List.countP_filter]
  apply List.countP_congr
  intro ⟨r, c⟩ _
  simp only [Bool.and_eq_true, bne_iff_ne, ne_eq, Bool.not_eq_true', and_iff_left_iff_imp]
  intro hf h6
  rw [h6, col6_isFunction] at hf
  cases hf

theorem pairLam_eq (v : Nat) :
    (fun (x : Nat × Nat) => match x with | (r, c) => !Spec.isFunction v r c) = fun p => !Spec.isFunction v p.1 p.2 := by
  funext ⟨r, c⟩; rfl

/-- **the count, along the placement order**: versions 1..40 -/
theorem zigzag_nonFunction_length (v : Nat) (h1 : 1 ≤ v) (h40 : v ≤ 40) :
    ((Spec.zigzag (Spec.size v)).filter fun (r, c) => !Spec.isFunction v r c).length = Spec.rawModules v := by
  rw [pairLam_eq, ← List.countP_eq_length_filter, zigzag_countP, nonFunction_count v h1 h40]

end QR.GeoC
