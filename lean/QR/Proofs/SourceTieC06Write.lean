import QR.Gen.Code
import QR.Model.Data
import QR.Proofs.Except
import QR.Proofs.StreamBits
import QR.Proofs.Loops
import QR.Proofs.Lists
/-
Translation validation for C06: `util.BitBuffer` (`__init__`, `__len__`, `put_bit`, `put`, `get`) and `util.QRData.write`.
The fragments `QR.Gen.Code.bb_*` / `qw_*` are produced by tools/t2_fragments/frag_c.py from the Python AST.

The Model represents a `BitBuffer` by the list of bits put so far; `buffer.buffer` is `packBytes bits`, `buffer.length` is
`bits.length`.  Here the byte-level state machine of the source (`bb_put_bit`: index `length // 8`, growth by `append(0)`, the
`|= 0x80 >> (length % 8)` update) is proved to maintain exactly this representation, `bb_put` to append `bitsBE num length`,
and the translated `QRData.write` to equal `Model.segWrite` on every segment; that `bb_get` reads the bit back
(`C06_source_get_src`, Props/C06.lean) rests on `packBytes_getElem` and `byteOfBits_testBit` (StreamBits.lean).
At the end: the `…Src` assemblies the capstones of C06 are stated with.
-/
namespace QR.SourceTieT
open QR.Model QR.Gen.Code

/-- the representation of the Model's bit list as the Python object's fields `(buffer, length)` -/
def bbRep (bits : List Bool) : List Nat × Nat := (packBytes bits, bits.length)

/-- the two field updates of `put_bit` without the exception plumbing -/
private def putBitPure (buf : List Nat) (len : Nat) (b : Bool) : List Nat :=
  let buf := if buf.length ≤ len / 8 then buf ++ [0] else buf
  if b then buf.set (len / 8) (buf.getD (len / 8) 0 ||| (128 >>> (len % 8))) else buf

/-- `put_bit` raises (IndexError) only when the byte list is too short by more than the one byte it appends -/
private theorem bb_put_bit_eq {ε : Type} (e : ε) (buf : List Nat) (len : Nat) (b : Bool) (h : len / 8 ≤ buf.length) :
    bb_put_bit e buf len b = .ok (putBitPure buf len b, len + 1) := by
  unfold bb_put_bit putBitPure
  cases b with
  | false => simp [bind, Except.bind]
  | true =>
    by_cases hg : buf.length ≤ len / 8
    · have hl : len / 8 = buf.length := by omega
      simp [hl, bind, Except.bind]
    · have hl : len / 8 < buf.length := by omega
      simp [hg, hl, bind, Except.bind]

private theorem putBitPure_cons {x : Nat} {buf : List Nat} {len : Nat} {b : Bool} (h : 8 ≤ len) :
    putBitPure (x :: buf) len b = x :: putBitPure buf (len - 8) b := by
  have h1 : len / 8 = (len - 8) / 8 + 1 := by omega
  have h2 : len % 8 = (len - 8) % 8 := by omega
  unfold putBitPure
  rw [h1, h2]
  by_cases hg : buf.length ≤ (len - 8) / 8 <;> cases b <;> simp [hg]

/-- the Model's packing of `bits ++ [b]` is what `put_bit` does to the packing of `bits` -/
theorem packBytes_snoc (b : Bool) (bits : List Bool) :
    packBytes (bits ++ [b]) = putBitPure (packBytes bits) bits.length b := by
  by_cases h8 : 8 ≤ bits.length
  -- a full first byte is not touched: go on behind it
  · rw [packBytes_long bits h8, packBytes_long (bits ++ [b]) (by simp; omega), putBitPure_cons h8]
    have e1 : byteOfBits (bits ++ [b]) = byteOfBits bits := by
      unfold byteOfBits
      rw [List.take_append_of_le_length h8]
    have e2 : (bits ++ [b]).drop 8 = bits.drop 8 ++ [b] := List.drop_append_of_le_length h8
    rw [e1, e2, packBytes_snoc b (bits.drop 8), List.length_drop]
  · by_cases h0 : bits.length = 0
    · have : bits = [] := List.eq_nil_of_length_eq_zero h0
      subst this
      revert b; decide
    · rw [packBytes_short bits (by omega) (by omega), packBytes_short (bits ++ [b]) (by simp) (by simp; omega),
        byteOfBits_snoc bits b (by omega)]
      have hd : bits.length / 8 = 0 := by omega
      have hm : bits.length % 8 = bits.length := by omega
      unfold putBitPure
      cases b <;> simp [hd, hm]
termination_by bits.length
decreasing_by rw [List.length_drop]; omega

/-- **BitBuffer.put_bit**: on the object that represents the bit list `bits`, `put_bit(b)` never raises and yields the object
    that represents `bits ++ [b]` (`buffer` = the Model's `packBytes`, `length` = the number of bits). -/
theorem put_bit_src {ε : Type} (e : ε) (bits : List Bool) (b : Bool) :
    bb_put_bit e (bbRep bits).1 (bbRep bits).2 b = .ok (bbRep (bits ++ [b])) := by
  unfold bbRep
  rw [bb_put_bit_eq e _ _ _ (by rw [packBytes_length]; omega), ← packBytes_snoc b bits]
  simp

private theorem foldlM_bits {σ : Type} (rep : List Bool → σ) (pb : σ → Bool → R σ)
    (h : ∀ bits b, pb (rep bits) b = .ok (rep (bits ++ [b]))) (g : Nat → Bool) :
    ∀ (l : List Nat) (bits : List Bool), l.foldlM (fun s i => pb s (g i)) (rep bits) = .ok (rep (bits ++ l.map g))
  | [], bits => by simp
  | i :: l, bits => by
    rw [List.foldlM_cons, h, R.bind_ok, foldlM_bits rep pb h g l]
    simp

/-- **BitBuffer.put**, for any representation `rep` of bit lists on which the callee `put_bit` appends one bit:
    `put(num, length)` appends the Model's `bitsBE num length`. -/
theorem put_src_gen {σ : Type} (rep : List Bool → σ) (pb : σ → Bool → R σ)
    (h : ∀ bits b, pb (rep bits) b = .ok (rep (bits ++ [b]))) (bits : List Bool) (num length : Nat) :
    bb_put pb (rep bits) num length = .ok (rep (bits ++ bitsBE num length)) := by
  unfold bb_put
  have hf : (fun (self : σ) (i : Nat) =>
        pb self (decide (((num >>> (((((length : Nat) : Int) - ((i : Nat) : Int)) - (1 : Int))).toNat) &&& 1) = 1)))
      = fun self i => pb self ((fun i => num.testBit (length - i - 1)) i) := by
    funext self i
    rw [decide_shiftRight_and_one]
    congr 3; omega
  rw [hf, foldlM_bits rep pb h, bitsBE_eq_map]

/-- **BitBuffer.put** on the translated `put_bit`: the byte list / length pair after `put(num, length)` is the Model's
    packing of `bits ++ bitsBE num length`; no exception. -/
theorem put_src (bits : List Bool) (num length : Nat) :
    bb_put (fun (s : List Nat × Nat) b => bb_put_bit Err.indexError s.1 s.2 b) (bbRep bits) num length
      = .ok (bbRep (bits ++ bitsBE num length)) :=
  put_src_gen bbRep _ (fun bits b => put_bit_src Err.indexError bits b) bits num length

/-- the module-level constants read by `write` -/
theorem write_consts_src : qw_MODE_NUMBER = Gen.MODE_NUMBER ∧ qw_MODE_ALPHA_NUM = Gen.MODE_ALPHA_NUM ∧
    qw_MODE_8BIT_BYTE = Gen.MODE_8BIT_BYTE ∧ qw_ALPHA_NUM = Gen.ALPHA_NUM :=
  ⟨rfl, rfl, rfl, rfl⟩

/-- `NUMBER_LENGTH[k]` on the dict literal of the source = the Model's lookup in the (sorted) generated table, KeyError included -/
theorem number_length_src (k : Nat) : qw_lookup Err.keyError qw_NUMBER_LENGTH k = dictGet Gen.NUMBER_LENGTH k := by
  rw [qw_lookup, dictGet, lookup_congr qw_NUMBER_LENGTH Gen.NUMBER_LENGTH (by decide) k]
  cases Gen.NUMBER_LENGTH.lookup k <;> rfl

/-- `ALPHA_NUM.find(c)` for an int `c`, "not found" (-1 in Python) being the Model's rejection -/
theorem alphaFind_src (c : Nat) : qw_find_in Err.other qw_ALPHA_NUM c = alphaFind c := rfl

/-- the loop `for i in range(0, len(data), s): chars = data[i : i + s]; <body>` as a loop over the slices of `data` -/
private theorem slice_loop {σ : Type} (s : Nat) (f : σ → List Nat → R σ) (data : List Nat) (b : σ) :
    (qw_range 0 data.length s).foldlM (fun buffer i => f buffer (qw_slice data i (i + s))) b = (Loops.slices s data).foldlM f b := by
  have hs : ∀ i, qw_slice data i (i + s) = (data.drop i).take s := by
    intro i; unfold qw_slice; rw [List.drop_take, Nat.add_sub_cancel_left]
  simp only [hs]
  rw [qw_range, Loops.range_map_eq_range', Nat.sub_zero, Loops.foldlM_slices]

section
variable {σ : Type} (rep : List Bool → σ) (put : σ → Nat → Nat → R σ)

/-- the body of the numeric loop, as translated (after `chars = self.data[i : i + 3]`) -/
private def numStep (buffer : σ) (chars : List Nat) : R σ :=
  (qw_lookup Err.keyError qw_NUMBER_LENGTH chars.length) >>= fun t1 =>
    let bit_length := t1; (intOfDigits chars) >>= fun t2 => put buffer t2 bit_length

/-- the body of the alphanumeric loop, as translated (after `chars = self.data[i : i + 2]`) -/
private def alStep (find_bytes : List Nat → R Nat) (buffer : σ) (chars : List Nat) : R σ :=
  (if decide (chars.length > 1) then
    (qw_index Err.indexError chars 0) >>= fun t3 => (qw_find_in Err.other qw_ALPHA_NUM t3) >>= fun t4 =>
    (qw_index Err.indexError chars 1) >>= fun t5 => (qw_find_in Err.other qw_ALPHA_NUM t5) >>= fun t6 =>
    put buffer ((t4 * 45) + t6) 11 else (find_bytes chars) >>= fun t7 => put buffer t7 6)

private theorem numeric_fold (hput : ∀ bits n l, put (rep bits) n l = .ok (rep (bits ++ bitsBE n l))) :
    ∀ (fuel : Nat) (data : List Nat) (pre : List Bool), data.length ≤ fuel →
      (Loops.slices 3 data).foldlM (numStep put) (rep pre) = (writeNumeric fuel data).map fun bits => rep (pre ++ bits)
  | fuel, [], pre, _ => by
    cases fuel <;> simp [Loops.slices_nil, writeNumeric, Except.map]
  | 0, _ :: _, _, hf => by simp at hf
  | fuel + 1, c :: cs, pre, hf => by
    have hf' : ((c :: cs).drop 3).length ≤ fuel := by rw [List.length_drop]; simp at hf ⊢; omega
    rw [Loops.slices_cons 3 (by decide), List.foldlM_cons, writeNumeric, numStep, number_length_src]
    -- `put` by its hypothesis, the rest of the loop by recursion; then both sides are the same chain of binds
    simp only [R.map_eq_bind, bind_assoc, hput, R.bind_ok, R.pure_eq, fun pre => numeric_fold hput fuel _ pre hf',
      List.append_assoc]

private theorem alnum_fold (hput : ∀ bits n l, put (rep bits) n l = .ok (rep (bits ++ bitsBE n l)))
    (find_bytes : List Nat → R Nat) (hfb : ∀ a, find_bytes [a] = alphaFind a) :
    ∀ (data : List Nat) (pre : List Bool),
      (Loops.slices 2 data).foldlM (alStep put find_bytes) (rep pre) = (writeAlnum data).map fun bits => rep (pre ++ bits)
  | [], pre => by simp [Loops.slices_nil, writeAlnum, Except.map]
  | [a], pre => by
    rw [Loops.slices_cons 2 (by decide), List.foldlM_cons, writeAlnum, alStep]
    simp only [List.take, List.drop, Loops.slices_nil 2 (by decide), List.length_singleton, hfb, Nat.lt_irrefl, decide_false,
      Bool.false_eq_true, if_false, R.map_eq_bind, bind_assoc, hput, R.bind_ok, R.pure_eq, List.foldlM_nil]
  | a :: b :: rest, pre => by
    rw [Loops.slices_cons 2 (by decide), List.foldlM_cons, writeAlnum, alStep, if_pos (by simp)]
    simp only [List.take, List.drop, qw_index, alphaFind_src, List.getElem?_cons_zero, List.getElem?_cons_succ,
      R.map_eq_bind, bind_assoc, hput, R.bind_ok, R.pure_eq, fun pre => alnum_fold hput find_bytes hfb rest pre,
      List.append_assoc]

private theorem bytes_fold (hput : ∀ bits n l, put (rep bits) n l = .ok (rep (bits ++ bitsBE n l))) :
    ∀ (data : List Nat) (pre : List Bool),
      data.foldlM (fun buffer c => put buffer c 8) (rep pre) = .ok (rep (pre ++ writeBytes data))
  | [], pre => by simp [writeBytes]
  | c :: cs, pre => by
    rw [List.foldlM_cons, hput, R.bind_ok, bytes_fold hput cs]
    simp [writeBytes]

/-- **QRData.write**, complete, for every segment (any mode value, any bytes) and every buffer object: given that the callee
    `buffer.put(n, l)` appends `bitsBE n l` in the representation `rep` (see `put_src`), and that `bytes.find` of a one-byte
    string is `find` of that byte, the translated method maps the buffer representing `pre` to the buffer representing
    `pre ++ (the Model's segWrite bits)`, and raises exactly when the Model does, with the same exception
    (`KeyError` of `NUMBER_LENGTH[..]`, `int(chars)` = `intOfDigits`, "find = -1" = the Model's rejection `.other`).
    These two identifications are Python's behaviour on valid segments only: `int(b"+12")` is 12, and after `find` has
    returned -1 the source goes on and puts a negative number (see `Model.intOfDigits`, `Model.alphaFind`). -/
theorem segWrite_src_gen (hput : ∀ bits n l, put (rep bits) n l = .ok (rep (bits ++ bitsBE n l)))
    (find_bytes : List Nat → R Nat) (hfb : ∀ a, find_bytes [a] = alphaFind a) (s : Seg) (pre : List Bool) :
    qw_write Err.keyError Err.indexError Err.other intOfDigits find_bytes put s.mode s.data (rep pre)
      = (segWrite s).map fun bits => rep (pre ++ bits) := by
  unfold qw_write segWrite
  rw [write_consts_src.1, write_consts_src.2.1]
  by_cases h1 : s.mode = Gen.MODE_NUMBER
  · rw [if_pos (decide_eq_true h1), if_pos h1]
    exact (slice_loop 3 (numStep put) s.data (rep pre)).trans
      (numeric_fold rep put hput s.data.length s.data pre (Nat.le_refl _))
  · by_cases h2 : s.mode = Gen.MODE_ALPHA_NUM
    · rw [if_neg (by simpa using h1), if_pos (decide_eq_true h2), if_neg h1, if_pos h2]
      exact (slice_loop 2 (alStep put find_bytes) s.data (rep pre)).trans
        (alnum_fold rep put hput find_bytes hfb s.data pre)
    · rw [if_neg (by simpa using h1), if_neg (by simpa using h2), if_neg h1, if_neg h2]
      rw [bytes_fold rep put hput]
      simp [Except.map]

end

/-- **QRData.write over the translated BitBuffer**: with `buffer.put` = the translated `put` over the translated `put_bit`,
    the Python object `(buffer.buffer, buffer.length)` after `write` is the Model's packing of `pre ++ segWrite s`. -/
theorem segWrite_bytes_src (find_bytes : List Nat → R Nat) (hfb : ∀ a, find_bytes [a] = alphaFind a) (s : Seg) (pre : List Bool) :
    qw_write Err.keyError Err.indexError Err.other intOfDigits find_bytes
        (fun self n l => bb_put (fun (st : List Nat × Nat) b => bb_put_bit Err.indexError st.1 st.2 b) self n l)
        s.mode s.data (bbRep pre)
      = (segWrite s).map fun bits => bbRep (pre ++ bits) :=
  segWrite_src_gen bbRep _ (fun bits n l => put_src bits n l) find_bytes hfb s pre

end QR.SourceTieT

/-! ### the `…Src` assemblies of `length_in_bits`, of `create_data` up to `create_bytes` and of its segment loop (for the capstones
    `C06_source_capstone_*`, Props/C06.lean; what an `…Src` definition is: SourceTieC02.lean, last section).  The only proof: the
    segment loop on the translated `BitBuffer` computes the packing of the Model's bits (`segsLoopSrc_eq`). -/
namespace QR.CapstoneE2
open QR.Model QR.Gen.Code QR.SourceTieT

/-- `util.length_in_bits(mode, version)` assembled from the translated mode test, `check_version` test and dictionary choice -/
def lengthInBitsSrc (mode version : Nat) : R Nat :=
  if length_in_bits_bad_mode mode then .error .typeError
  else if check_version_bad (version : Int) then .error .valueError
  else dictGet (match mode_size_class version with
                | 0 => Gen.MODE_SIZE_SMALL
                | 1 => Gen.MODE_SIZE_MEDIUM
                | _ => Gen.MODE_SIZE_LARGE) (length_in_bits_key mode)

/-- `util.create_data` up to the call of `create_bytes`, on the bit list: translated overflow test, terminator length and pad
    alternation; parameters: `segs_bits` (the loop writing headers and `QRData.write` for every segment, given the
    character-count width function), `width` (`length_in_bits`), `rs_blocks` -/
def dataBitsSrc (segs_bits : (Nat → R Nat) → List Seg → R (List Bool)) (width : Nat → Nat → R Nat)
    (rs_blocks : Nat → Nat → R (List (Nat × Nat))) (version level : Nat) (segs : List Seg) : R (List Bool) := do
  let buffer ← segs_bits (fun m => width m version) segs
  let blocks ← rs_blocks version level
  let bitLimit := (blocks.map fun b => b.2 * 8).sum
  if overflow_test buffer.length bitLimit then .error .dataOverflow
  else
    let buffer := buffer ++ List.replicate (terminator_len buffer.length bitLimit) false
    let delimit := buffer.length % 8
    let buffer := if delimit ≠ 0 then buffer ++ List.replicate (8 - delimit) false else buffer
    let bytesToFill := (bitLimit - buffer.length) / 8
    pure (buffer ++ (List.range bytesToFill).flatMap fun i => bitsBE (if pad_first i then Gen.PAD0 else Gen.PAD1) 8)

/-- the segment loop of `util.create_data` on the Python object `(buffer.buffer, buffer.length)`:
    `for data in data_list: buffer.put(data.mode, 4); buffer.put(len(data), length_in_bits(data.mode, version));
    data.write(buffer)` with the translated `BitBuffer.put` over the translated `put_bit`, the translated `QRData.__len__` and
    the translated `QRData.write` (the `for` skeleton itself is hand-assembled); `width` = `length_in_bits(·, version)`,
    `find_bytes` = `ALPHA_NUM.find` on a one-byte string; `int(chars)` is `Model.intOfDigits`, not a parameter -/
def segsLoopSrc (width : Nat → R Nat) (find_bytes : List Nat → R Nat) : List Seg → List Nat × Nat → R (List Nat × Nat)
  | [], b => .ok b
  | s :: rest, b =>
    bb_put (fun (st : List Nat × Nat) x => bb_put_bit Err.indexError st.1 st.2 x) b s.mode 4 >>= fun b =>
    width s.mode >>= fun w =>
    bb_put (fun (st : List Nat × Nat) x => bb_put_bit Err.indexError st.1 st.2 x) b (qrdata_len s.data.length) w >>= fun b =>
    qw_write Err.keyError Err.indexError Err.other intOfDigits find_bytes
      (fun self n l => bb_put (fun (st : List Nat × Nat) x => bb_put_bit Err.indexError st.1 st.2 x) self n l)
      s.mode s.data b >>= fun b =>
    segsLoopSrc width find_bytes rest b

theorem segsLoopSrc_eq (width : Nat → R Nat) (find_bytes : List Nat → R Nat) (hfb : ∀ a, find_bytes [a] = alphaFind a) :
    ∀ (segs : List Seg) (pre : List Bool),
      segsLoopSrc width find_bytes segs (bbRep pre) = (segsBits width segs).map fun bits => bbRep (pre ++ bits)
  | [], pre => by simp [segsLoopSrc, segsBits, Except.map]
  | s :: rest, pre => by
    unfold segsLoopSrc segsBits
    -- each call by its bridge; then both sides are the same chain of binds
    simp only [put_src, segWrite_bytes_src find_bytes hfb, segsLoopSrc_eq width find_bytes hfb rest, qrdata_len,
      R.map_eq_bind, bind_assoc, R.bind_ok, R.pure_eq, List.append_assoc]

end QR.CapstoneE2
