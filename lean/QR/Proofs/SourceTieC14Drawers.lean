import QR.Gen.Code
import QR.Proofs.Styled
/-
Tie to the source for the six Pillow module drawers (`moduledrawers/pil.py`, C14).  The Model (`QR/Model/Styled.lean`) has no
stamp model: `paints` is the Model-side closed form of what each drawer paints for one dark module, `sourcePaints` reads the
same off the translated source (`initialize` -> `setup_*` -> `drawrect`, generated from the Python AST into
`QR.Gen.Code.dr_*`), and `paints_src` proves them equal.  Rectangles are closed pixel ranges `x0..x1 × y0..y1`, as in
`ImageDraw.rectangle` and `pixel_box`; `paste(im, (x, y))` of a `w × h` stamp covers `x .. x+w-1`, `y .. y+h-1`.
What the closed form implies for C14 (`C14_drawer_*`) is in Props/C14.
-/
namespace QR.SourceTieD5
open QR.Gen.Code

/-- closed pixel rectangle (real coordinates: the gapped drawer hands non-integers to Pillow) -/
structure RectQ where
  (x0 y0 x1 y1 : Rat)
deriving DecidableEq, Repr

def RectQ.ofInt (x0 y0 x1 y1 : Int) : RectQ := ⟨(x0 : Rat), (y0 : Rat), (x1 : Rat), (y1 : Rat)⟩

/-- the rectangle lies inside the closed pixel box (any rounding of its corners to integers between floor and ceiling stays inside) -/
def RectQ.inside (r : RectQ) (b : dr_Box) : Prop :=
  (b.1.1 : Rat) ≤ r.x0 ∧ r.x1 ≤ (b.2.1 : Rat) ∧ (b.1.2 : Rat) ≤ r.y0 ∧ r.y1 ≤ (b.2.2 : Rat)

def RectQ.covers (r : RectQ) (px py : Int) : Prop :=
  r.x0 ≤ (px : Rat) ∧ (px : Rat) ≤ r.x1 ∧ r.y0 ≤ (py : Rat) ∧ (py : Rat) ≤ r.y1

inductive Drawer where
  | square | gapped | circle | rounded | vbars | hbars
deriving DecidableEq, Repr

/-- `pixel_box` of a module whose top-left pixel is `(x, y)`: `((x, y), (x + box_size - 1, y + box_size - 1))` -/
def moduleBox (x y bs : Int) : dr_Box := ((x, y), (x + bs - 1, y + bs - 1))

/-- value of an attribute in a generated `_ints` list (the last store wins) -/
def getInt (l : List (String × Int)) (k : String) : Int :=
  ((l.reverse.find? (fun p => p.1 == k)).map (·.2)).getD 0
def getReal (l : List (String × Rat)) (k : String) : Rat :=
  ((l.reverse.find? (fun p => p.1 == k)).map (·.2)).getD 0
/-- size of an image built by a generated `_stamps` list (the last store wins) -/
def stampSize (l : List (String × (Int × Int) × String)) (k : String) : Int × Int :=
  ((l.reverse.find? (fun p => p.1 == k)).map (·.2.1)).getD (0, 0)

/-- what is painted (the fill colour or the stamp's name) and the pixels it covers -/
def opPaint (stamps : List (String × (Int × Int) × String)) : dr_Op → String × RectQ
  | .rectangle _ (a, b, c, d) fill => (fill, ⟨a, b, c, d⟩)
  | .paste _ s (px, py) => (s, RectQ.ofInt px py (px + (stampSize stamps s).1 - 1) (py + (stampSize stamps s).2 - 1))

/-- **the translated source**: what the drawer paints for the module `a` in `box`, after `initialize` (and `setup_*`) ran
    with `self.img.box_size = bs` and the constructor ratio `ratio` -/
def sourcePaints (d : Drawer) (bs : Int) (ratio : Rat) (box : dr_Box) (a : dr_Active) : List (String × RectQ) :=
  match d with
  | .square => (dr_square_drawrect box a.truth).map (opPaint (dr_square_initialize_stamps bs))
  | .gapped =>
      (dr_gapped_drawrect (getReal (dr_gapped_initialize_reals bs ratio) "self.delta") box a.truth).map
        (opPaint (dr_gapped_initialize_stamps bs ratio))
  | .circle => (dr_circle_drawrect box a.truth).map (opPaint (dr_circle_initialize_stamps bs))
  | .rounded =>
      let cw := getInt (dr_rounded_initialize_ints bs) "self.corner_width"
      (dr_rounded_drawrect cw box a).map (opPaint (dr_rounded_setup_corners_stamps cw ratio))
  | .vbars =>
      let hh := getInt (dr_vbars_initialize_ints bs ratio) "self.half_height"
      let dl := getInt (dr_vbars_initialize_ints bs ratio) "self.delta"
      (dr_vbars_drawrect hh dl box a).map (opPaint (dr_vbars_setup_edges_stamps hh ratio))
  | .hbars =>
      let hw := getInt (dr_hbars_initialize_ints bs ratio) "self.half_width"
      let dl := getInt (dr_hbars_initialize_ints bs ratio) "self.delta"
      (dr_hbars_drawrect hw dl box a).map (opPaint (dr_hbars_setup_edges_stamps hw ratio))

/-- Python `int()` of a real: truncation toward zero (same as `Model.truncInt`) -/
def truncQ (q : Rat) : Int := if q ≥ 0 then q.floor else -((-q).floor)

theorem dr_pyInt_eq (q : Rat) : dr_pyInt q = truncQ q := rfl

/-- **Model-side closed form**: the painted rectangles of one module with top-left pixel `(x, y)`, box size `bs`:
    * square: the whole box; circle: a `bs × bs` stamp at the origin of the box;
    * gapped: the box shrunk by `δ = (1 - ratio)·bs/2` on every side (real coordinates);
    * rounded: four `c × c` corner stamps, `c = bs / 2` (floor), in the order NW, NE, SE, SW; a corner is round iff both
      adjacent neighbours are light;
    * vertical bars: two `w × h` stamps, `h = bs / 2`, `w = int(2h·ratio)`, shifted right by `int((1 - ratio)·h)`;
      horizontal bars: the transpose.
    A light module paints nothing. -/
def paints (d : Drawer) (bs : Int) (ratio : Rat) (x y : Int) (a : dr_Active) : List (String × RectQ) :=
  if !a.me then [] else
  match d with
  | .square => [("self.img.paint_color", RectQ.ofInt x y (x + bs - 1) (y + bs - 1))]
  | .circle => [("self.circle", RectQ.ofInt x y (x + bs - 1) (y + bs - 1))]
  | .gapped =>
      let δ : Rat := (1 - ratio) * (bs : Rat) / 2
      [("self.img.paint_color", ⟨(x : Rat) + δ, (y : Rat) + δ, ((x + bs - 1 : Int) : Rat) - δ, ((y + bs - 1 : Int) : Rat) - δ⟩)]
  | .rounded =>
      let c := bs / 2
      [(if !a.W && !a.N then "self.NW_ROUND" else "self.SQUARE", RectQ.ofInt x y (x + c - 1) (y + c - 1)),
       (if !a.N && !a.E then "self.NE_ROUND" else "self.SQUARE", RectQ.ofInt (x + c) y (x + c + c - 1) (y + c - 1)),
       (if !a.E && !a.S then "self.SE_ROUND" else "self.SQUARE", RectQ.ofInt (x + c) (y + c) (x + c + c - 1) (y + c + c - 1)),
       (if !a.S && !a.W then "self.SW_ROUND" else "self.SQUARE", RectQ.ofInt x (y + c) (x + c - 1) (y + c + c - 1))]
  | .vbars =>
      let h := bs / 2
      let dl := truncQ ((1 - ratio) * (h : Rat))
      let w := truncQ (((h * 2 : Int) : Rat) * ratio)
      [(if !a.N then "self.ROUND_TOP" else "self.SQUARE", RectQ.ofInt (x + dl) y (x + dl + w - 1) (y + h - 1)),
       (if !a.S then "self.ROUND_BOTTOM" else "self.SQUARE", RectQ.ofInt (x + dl) (y + h) (x + dl + w - 1) (y + h + h - 1))]
  | .hbars =>
      let w := bs / 2
      let dl := truncQ ((1 - ratio) * (w : Rat))
      let h := truncQ (((w * 2 : Int) : Rat) * ratio)
      [(if !a.W then "self.ROUND_LEFT" else "self.SQUARE", RectQ.ofInt x (y + dl) (x + w - 1) (y + dl + h - 1)),
       (if !a.E then "self.ROUND_RIGHT" else "self.SQUARE", RectQ.ofInt (x + w) (y + dl) (x + w + w - 1) (y + dl + h - 1))]

/-- a stamp chosen between a round and a square variant of the same size: the choice does not affect what is covered -/
theorem opPaint_paste_ite (stamps : List (String × (Int × Int) × String)) (callee : String) (b : Bool) (s t : String)
    (pos : Int × Int) (wh : Int × Int) (hs : stampSize stamps s = wh) (ht : stampSize stamps t = wh) :
    opPaint stamps (.paste callee (if b then s else t) pos)
      = (if b then s else t, RectQ.ofInt pos.1 pos.2 (pos.1 + wh.1 - 1) (pos.2 + wh.2 - 1)) := by
  cases b
  · simp only [opPaint, Bool.false_eq_true, if_false, ht]
  · simp only [opPaint, if_true, hs]

/-- **bridge**: for every drawer, every box size `≥ 0` (the library checks `box_size > 0`), every ratio, position and
    neighbourhood, the translated source (`initialize`, `setup_*`, `drawrect` of `moduledrawers/pil.py`) paints exactly
    the rectangles of the closed form `paints`.  (`0 ≤ bs`: `int(box_size / 2)` truncates toward zero, `bs / 2` is the floor.)
    All stamps a drawer chooses between have one size (read off the translated `setup_*` by `rfl`), so the neighbours only
    select the stamp's name. -/
theorem paints_src (d : Drawer) (bs : Int) (hbs : 0 ≤ bs) (ratio : Rat) (x y : Int) (a : dr_Active) :
    sourcePaints d bs ratio (moduleBox x y bs) a = paints d bs ratio x y a := by
  have h2 : Int.tdiv bs 2 = bs / 2 := Int.tdiv_eq_ediv_of_nonneg hbs
  cases d
  case square => unfold sourcePaints paints dr_square_drawrect dr_Active.truth; cases a.me <;> rfl
  case gapped => unfold sourcePaints paints dr_gapped_drawrect dr_Active.truth; cases a.me <;> rfl
  case circle => unfold sourcePaints paints dr_circle_drawrect dr_Active.truth; cases a.me <;> rfl
  case rounded =>
    have hc : getInt (dr_rounded_initialize_ints bs) "self.corner_width" = bs / 2 := h2
    have P := fun b s pos hs => opPaint_paste_ite (dr_rounded_setup_corners_stamps (bs / 2) ratio)
      "self.img._img.paste" b s "self.SQUARE" pos (bs / 2, bs / 2) hs rfl
    simp only [sourcePaints, paints, hc, dr_rounded_drawrect, dr_Active.truth]
    cases a.me
    · rfl
    · simp only [Bool.not_true, Bool.false_eq_true, if_false, List.map_cons, List.map_nil, moduleBox,
        P _ "self.NW_ROUND" _ rfl, P _ "self.NE_ROUND" _ rfl, P _ "self.SE_ROUND" _ rfl, P _ "self.SW_ROUND" _ rfl]
  case vbars =>
    have hh : getInt (dr_vbars_initialize_ints bs ratio) "self.half_height" = bs / 2 := h2
    have hd : getInt (dr_vbars_initialize_ints bs ratio) "self.delta" = truncQ ((1 - ratio) * ((bs / 2 : Int) : Rat)) := by
      rw [← h2]; rfl
    have P := fun b s pos hs => opPaint_paste_ite (dr_vbars_setup_edges_stamps (bs / 2) ratio)
      "self.img._img.paste" b s "self.SQUARE" pos (truncQ (((bs / 2 * 2 : Int) : Rat) * ratio), bs / 2) hs rfl
    simp only [sourcePaints, paints, hh, hd, dr_vbars_drawrect, dr_Active.truth]
    cases a.me
    · rfl
    · simp only [Bool.not_true, Bool.false_eq_true, if_false, if_true, List.map_cons, List.map_nil, moduleBox,
        P _ "self.ROUND_TOP" _ rfl, P _ "self.ROUND_BOTTOM" _ rfl]
  case hbars =>
    have hw : getInt (dr_hbars_initialize_ints bs ratio) "self.half_width" = bs / 2 := h2
    have hd : getInt (dr_hbars_initialize_ints bs ratio) "self.delta" = truncQ ((1 - ratio) * ((bs / 2 : Int) : Rat)) := by
      rw [← h2]; rfl
    have P := fun b s pos hs => opPaint_paste_ite (dr_hbars_setup_edges_stamps (bs / 2) ratio)
      "self.img._img.paste" b s "self.SQUARE" pos (bs / 2, truncQ (((bs / 2 * 2 : Int) : Rat) * ratio)) hs rfl
    simp only [sourcePaints, paints, hw, hd, dr_hbars_drawrect, dr_Active.truth]
    cases a.me
    · rfl
    · simp only [Bool.not_true, Bool.false_eq_true, if_false, if_true, List.map_cons, List.map_nil, moduleBox,
        P _ "self.ROUND_LEFT" _ rfl, P _ "self.ROUND_RIGHT" _ rfl]

theorem ofInt_inside_iff (a b c d : Int) (box : dr_Box) :
    (RectQ.ofInt a b c d).inside box ↔ box.1.1 ≤ a ∧ c ≤ box.2.1 ∧ box.1.2 ≤ b ∧ d ≤ box.2.2 := by
  simp only [RectQ.inside, RectQ.ofInt, Rat.intCast_le_intCast]

theorem ofInt_covers_iff (a b c d px py : Int) :
    (RectQ.ofInt a b c d).covers px py ↔ a ≤ px ∧ px ≤ c ∧ b ≤ py ∧ py ≤ d := by
  simp only [RectQ.covers, RectQ.ofInt, Rat.intCast_le_intCast]

/-- the bar stamps fit: the shift `int((1 - s)·h)` plus the width `int(2h·s)` is at most the side `2h` -/
theorem bars_fit (h : Int) (hh : 0 ≤ h) (s : Rat) (h0 : 0 ≤ s) (h1 : s ≤ 1) :
    0 ≤ truncQ ((1 - s) * (h : Rat)) ∧ truncQ ((1 - s) * (h : Rat)) + truncQ (((h * 2 : Int) : Rat) * s) ≤ h * 2 := by
  have hq : (0 : Rat) ≤ (h : Rat) := Rat.intCast_nonneg.mpr hh
  have hs : (0 : Rat) ≤ 1 - s := by grind
  have hδ : 0 ≤ truncQ _ ∧ ((truncQ _ : Int) : Rat) ≤ _ := QR.Proofs.Styled.truncInt_nonneg_le (Rat.mul_nonneg hs hq)
  have h2 : (0 : Rat) ≤ ((h * 2 : Int) : Rat) := Rat.intCast_nonneg.mpr (by omega)
  have hw : 0 ≤ truncQ _ ∧ ((truncQ _ : Int) : Rat) ≤ _ := QR.Proofs.Styled.truncInt_nonneg_le (Rat.mul_nonneg h2 h0)
  refine ⟨hδ.1, ?_⟩
  have hm : (h : Rat) * s ≤ (h : Rat) * 1 := Rat.mul_le_mul_of_nonneg_left h1 hq
  apply Rat.intCast_le_intCast.mp
  have e : ((h * 2 : Int) : Rat) = (h : Rat) * 2 := by simp
  rw [Rat.intCast_add]
  rw [e] at hw ⊢
  -- each `int()` is at most its argument (`hδ.2`, `hw.2`), and `(1 - s)·h + 2h·s = h + h·s ≤ 2h` by `hm`
  grind

/-- **inside the box** (closed form): for every drawer, box size `≥ 1`, ratio in `[0, 1]`, neighbourhood, every painted
    rectangle lies inside the module's pixel box `((x, y), (x + bs - 1, y + bs - 1))` -/
theorem paints_inside_box (d : Drawer) (bs : Int) (hbs : 1 ≤ bs) (ratio : Rat) (h0 : 0 ≤ ratio) (h1 : ratio ≤ 1)
    (x y : Int) (a : dr_Active) :
    ∀ p ∈ paints d bs ratio x y a, p.2.inside (moduleBox x y bs) := by
  have hc : 0 ≤ bs / 2 ∧ bs / 2 * 2 ≤ bs := by omega
  have hb := bars_fit (bs / 2) hc.1 ratio h0 h1
  intro p hp
  unfold paints at hp
  cases hme : a.me
  · simp [hme] at hp
  · cases d <;> simp only [hme, Bool.not_true, Bool.false_eq_true, if_false, List.mem_cons,
      List.not_mem_nil, or_false] at hp
    case square => subst hp; rw [ofInt_inside_iff]; simp [moduleBox]
    case circle => subst hp; rw [ofInt_inside_iff]; simp [moduleBox]
    case gapped =>
      subst hp
      have hq : (0 : Rat) ≤ (bs : Rat) := Rat.intCast_nonneg.mpr (by omega)
      have hs : (0 : Rat) ≤ 1 - ratio := by grind
      have hδ : (0 : Rat) ≤ (1 - ratio) * (bs : Rat) / 2 := by
        have := Rat.mul_nonneg hs hq
        grind
      simp only [RectQ.inside, moduleBox]
      grind
    case rounded =>
      rcases hp with hp | hp | hp | hp <;> subst hp <;> rw [ofInt_inside_iff] <;> simp only [moduleBox] <;> omega
    case vbars =>
      rcases hp with hp | hp <;> subst hp <;> rw [ofInt_inside_iff] <;> simp only [moduleBox] <;> omega
    case hbars =>
      rcases hp with hp | hp <;> subst hp <;> rw [ofInt_inside_iff] <;> simp only [moduleBox] <;> omega

def allDark : dr_Active := ⟨true, true, true, true, true, true, true, true, true⟩

/-- existing behaviour for odd box sizes: with `box_size = 5` the rounded drawer covers columns / rows 0 .. 3 only -/
theorem rounded_odd_example :
    (sourcePaints .rounded 5 1 (moduleBox 0 0 5) allDark).map (·.2)
      = [RectQ.ofInt 0 0 1 1, RectQ.ofInt 2 0 3 1, RectQ.ofInt 2 2 3 3, RectQ.ofInt 0 2 1 3] := by
  decide +kernel

/-- `box_size = 1`: `corner_width = 0`, the rounded drawer builds 0 × 0 stamps and paints nothing at all for a dark
    module (empty pixel ranges `0 .. -1`); the bar drawers (`half_width = 0`) do the same, not stated here -/
theorem box_size_one_paints_nothing :
    (sourcePaints .rounded 1 1 (moduleBox 0 0 1) allDark).map (·.2)
      = [RectQ.ofInt 0 0 (-1) (-1), RectQ.ofInt 0 0 (-1) (-1), RectQ.ofInt 0 0 (-1) (-1), RectQ.ofInt 0 0 (-1) (-1)] := by
  decide +kernel

end QR.SourceTieD5
