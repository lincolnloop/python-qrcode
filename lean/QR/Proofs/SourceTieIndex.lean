import QR.Gen.Code
/-
The prelude of the translated code (`QR.Gen.Code.lo_py_*`, written by the plugin `tools/t2_fragments/frag_d6.py`, not
translated from any source function): Python's `l[i]` on the indices the Model uses.  Kept apart from the bridges of any one
property, because several properties' bridges use it (C02's polynomial accessors, C05's pattern writers, C17's `commas`).
-/
namespace QR.SourceTieD6
open QR.Gen.Code

theorem py_getitem_nat {α : Type} (l : List α) (i : Nat) : lo_py_getitem l (i : Int) = l[i]? := by
  unfold lo_py_getitem
  have h : ¬ ((i : Int) < 0) := by omega
  simp only [h, if_false, Int.toNat_natCast]

/-- a negative index counts from the end -/
theorem py_getitem_neg {α : Type} (l : List α) (k : Nat) (hk : 1 ≤ k) (hl : k ≤ l.length) :
    lo_py_getitem l (-(k : Int)) = l[l.length - k]? := by
  unfold lo_py_getitem
  have h : (-(k : Int)) < 0 := by omega
  have h2 : ¬ (-(k : Int) + (l.length : Int) < 0) := by omega
  have h3 : (-(k : Int) + (l.length : Int)).toNat = l.length - k := by omega
  simp only [h, if_true, h2, if_false, h3]

theorem py_getitem_mem {α : Type} {l : List α} {i : Int} {a : α} (h : lo_py_getitem l i = some a) : a ∈ l := by
  unfold lo_py_getitem at h
  by_cases hc : (if i < 0 then i + (l.length : Int) else i) < 0
  · rw [if_pos hc] at h
    cases h
  · rw [if_neg hc] at h
    exact List.mem_of_getElem? h

end QR.SourceTieD6
