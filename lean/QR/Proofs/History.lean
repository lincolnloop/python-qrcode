import QR.Proofs.CachedCompile
import QR.Proofs.Lists
/-
C11 / C18 - the QRCode object as a state machine: every operation preserves the invariants (`step_inv`, `run_inv`), and
whatever a run hands out was handed out under settings in range (`run_out`).  The four operations that read out are one:
guard, `ensureMade`, `readout` (`step_read`).  Rests on `makeS_spec` (CachedCompile.lean).
-/
namespace QR
open QR.Model

/-! ### the four operations that compile implicitly and read the result out -/

/-- what `get_matrix`, `make_image`, `print_ascii`, `print_tty` hand out, read off the compiled state -/
def readout : Op → QRState → Out
  | .getMatrix, s => .matrix (framedOpt s.modules.toLists s.border)
  | .makeImage, s => .image s.border s.modulesCount s.boxSize s.modules.toLists
  | .printAscii, s => .text s.border s.modules.toLists
  | _, s => .text 1 s.modules.toLists

/-- the check that precedes the implicit compile (`make_image` only) -/
def readGuard : Op → QRState → R Unit
  | .makeImage, s => checkBoxSize s.boxSize
  | _, _ => .ok ()

theorem readGuard_error {op : Op} {s : QRState} {e : Err} (h : readGuard op s = .error e) :
    e = .valueError ∧ op = .makeImage ∧ s.boxSize ≤ 0 := by
  cases op <;> try cases h
  obtain ⟨hb, rfl⟩ := R.guard_error.1 h
  exact ⟨rfl, rfl, hb⟩

theorem readGuard_ok {op : Op} {s : QRState} (h : ¬(op = .makeImage ∧ s.boxSize ≤ 0)) : readGuard op s = .ok () := by
  cases hr : readGuard op s with
  | ok u => rfl
  | error e => exact absurd (readGuard_error hr).2 h

def Model.Op.reads : Op → Bool
  | .getMatrix | .makeImage | .printAscii | .printTty => true
  | _ => false

def Model.Op.compiles : Op → Bool
  | .make _ => true
  | op => op.reads

theorem Model.Op.reads_of {op : Op} (h : op = .getMatrix ∨ op = .makeImage ∨ op = .printAscii ∨ op = .printTty) :
    op.reads = true := by
  rcases h with rfl | rfl | rfl | rfl <;> rfl

/-- the four are one operation: guard, `ensureMade`, `readout` -/
theorem step_read {op : Op} (hop : op.reads = true) (g : Global) (s : QRState) :
    step (g, s) op = match readGuard op s with
      | .error e => ((g, s), .err e)
      | .ok _ => match ensureMade (g, s) with
        | (st, .error e) => (st, .err e)
        | (st, .ok _) => (st, readout op st.2) := by
  cases op <;> first | rfl | cases hop

theorem step_compiles {op : Op} (hop : op.compiles = true) (g : Global) (s : QRState) :
    (step (g, s) op).1 = (g, s) ∨ ∃ fit, (step (g, s) op).1 = (makeS fit (g, s)).1 := by
  cases op with
  | make fit =>
    refine Or.inr ⟨fit, ?_⟩
    simp only [step]
    cases makeS fit (g, s) with
    | mk st r => cases r <;> rfl
  | getMatrix | makeImage | printAscii | printTty =>
    rw [step_read rfl]
    cases readGuard _ s with
    | error e => exact Or.inl rfl
    | ok u =>
      simp only [ensureMade]
      cases s.dataCache with
      | some d => exact Or.inl rfl
      | none =>
        refine Or.inr ⟨true, ?_⟩
        cases makeS true (g, s) with
        | mk st r => cases r <;> rfl
  | _ => cases hop

/-! ### B5: every operation preserves the invariants -/

/-- the settings a state may hold (`Props.SettingsOK`) -/
def SettingsInv (s : QRState) : Prop := s.version ≤ 40 ∧ (∀ m, s.mask = some m → m ≤ 7)

/-- a filled data cache goes with a matrix size of a real version -/
def CacheInv (s : QRState) : Prop :=
  s.dataCache.isSome = true → ∃ v, 1 ≤ v ∧ v ≤ 40 ∧ s.modulesCount = v * 4 + 17

/-- the mask half of `SettingsInv`: `step_inv` carries the two halves separately -/
def MaskOK (s : QRState) : Prop := ∀ m, s.mask = some m → m ≤ 7

theorem MaskOK.of_eq {s s' : QRState} (h : s'.mask = s.mask) : MaskOK s → MaskOK s' := by
  intro hm m; rw [h]; exact hm m

/-- `makeS_spec` read in terms of the invariants -/
theorem makeS_inv {fit : Bool} {g g' : Global} {s s' : QRState} {r : R Unit} (hg : GInv g)
    (h : makeS fit (g, s) = ((g', s'), r)) :
    GInv g' ∧ (s.version ≤ 40 → s'.version ≤ 40) ∧ SameButVersion s s' ∧ CacheInv s' ∧
      (r = .ok () → s'.dataCache.isSome = true ∧ 1 ≤ s'.version) := by
  obtain ⟨a1, a2, a3, a4, _⟩ := makeS_spec hg h
  refine ⟨a1, fun hv => ?_, a2, fun hs => ?_, fun hr => ?_⟩
  · rcases a3 with a3 | a3
    · exact a3 ▸ hv
    · exact a3.2
  · obtain ⟨b1, b2, b3⟩ := a4 hs
    exact ⟨_, b1, b2, b3⟩
  · subst hr
    exact ⟨(makeS_ok hg h).cached, (makeS_ok hg h).one_le⟩

/-- **B5**: every operation preserves the blank-cache invariant, `version ≤ 40`, `mask ≤ 7` and the object-cache
    invariant (each on its own), and leaves the level alone unless it assigns it -/
theorem step_inv (g : Global) (s : QRState) (op : Op) (hg : GInv g) :
    GInv (step (g, s) op).1.1 ∧ (s.version ≤ 40 → (step (g, s) op).1.2.version ≤ 40) ∧
      (MaskOK s → MaskOK (step (g, s) op).1.2) ∧ (CacheInv s → CacheInv (step (g, s) op).1.2) ∧
      ((∀ l, op = .setLevel l → l = s.level) → (step (g, s) op).1.2.level = s.level) := by
  by_cases hop : op.compiles = true
  · rcases step_compiles hop g s with h | ⟨fit, h⟩ <;> rw [h]
    · exact ⟨hg, id, id, id, fun _ => rfl⟩
    · obtain ⟨a1, a2, a3, a4, _⟩ := makeS_inv (fit := fit) (s := s) hg rfl
      exact ⟨a1, a2, MaskOK.of_eq a3.mask, fun _ => a4, fun _ => a3.level⟩
  cases op with
  | make fit | getMatrix | makeImage | printAscii | printTty => exact absurd rfl hop
  -- these three empty the data cache, so `CacheInv` holds for want of a cache
  | addData d n | addSeg x | clear => exact ⟨hg, id, id, (fun _ hs => nomatch hs), fun _ => rfl⟩
  | setVersion x =>
    cases x with
    | none => exact ⟨hg, fun _ => Nat.zero_le _, id, id, fun _ => rfl⟩
    | some v =>
      cases hc : checkVersion v with
      | error e => simp only [step, hc]; exact ⟨hg, id, id, id, fun _ => trivial⟩
      | ok u =>
        simp only [step, hc]
        have := checkVersion_ok.1 hc
        exact ⟨hg, fun _ => by omega, id, id, fun _ => trivial⟩
  | setLevel l => exact ⟨hg, id, id, id, fun h => h l rfl⟩
  | setMask x =>
    cases hc : checkMaskPattern x with
    | error e => simp only [step, hc]; exact ⟨hg, id, id, id, fun _ => trivial⟩
    | ok u =>
      simp only [step, hc]
      exact ⟨hg, id, fun _ => mask_toNat_le (checkMaskPattern_ok.1 hc), id, fun _ => trivial⟩
  | setBorder x => simp only [step]; cases checkBorder x <;> exact ⟨hg, id, id, id, fun _ => rfl⟩
  | setBoxSize x | mutateModules r c x => exact ⟨hg, id, id, id, fun _ => rfl⟩
  | otherCompile cfg segs =>
    simp only [step]
    exact ⟨(makeS_inv (fit := cfg.fit) hg rfl).1, id, id, id, fun _ => trivial⟩

/-! ### operation sequences, and constructed objects -/

theorem run_nil (st : St) : run st [] = (st, []) := rfl

theorem run_cons (st : St) (op : Op) (ops : List Op) :
    run st (op :: ops) = ((run (step st op).1 ops).1, (step st op).2 :: (run (step st op).1 ops).2) :=
  foldCollect_cons step st op ops

theorem run_inv (ops : List Op) (g : Global) (s : QRState) (hg : GInv g) :
    GInv (run (g, s) ops).1.1 ∧ (s.version ≤ 40 → (run (g, s) ops).1.2.version ≤ 40) ∧
      (MaskOK s → MaskOK (run (g, s) ops).1.2) ∧ (CacheInv s → CacheInv (run (g, s) ops).1.2) := by
  induction ops generalizing g s with
  | nil => exact ⟨hg, id, id, id⟩
  | cons op ops ih =>
    rw [run_cons]
    obtain ⟨a1, a2, a3, a4, _⟩ := step_inv g s op hg
    obtain ⟨b1, b2, b3, b4⟩ := ih _ _ a1
    exact ⟨b1, fun h => b2 (a2 h), fun h => b3 (a3 h), fun h => b4 (a4 h)⟩

theorem construct_inv {version : Option Int} {level : Nat} {box border : Int} {mask : Option Int} {s0 : QRState}
    (h : construct version level box border mask = .ok s0) :
    SettingsInv s0 ∧ CacheInv s0 ∧ 0 < s0.boxSize := by
  obtain ⟨⟨hbox, _, hv, hm⟩, rfl⟩ := construct_eq_ok.1 h
  refine ⟨⟨?_, mask_toNat_le hm⟩, (fun hs => nomatch hs), hbox⟩
  cases version with
  | none => exact Nat.zero_le _
  | some v => have := hv v rfl; show v.toNat ≤ 40; omega

theorem construct_level {version : Option Int} {level : Nat} {box border : Int} {mask : Option Int} {s0 : QRState}
    (h : construct version level box border mask = .ok s0) : s0.level = level := by
  obtain ⟨_, rfl⟩ := construct_eq_ok.1 h
  rfl

/-! ### B6: what is produced, and under which settings (C18) -/

/-- the state in which something was handed out -/
def Produced (s : QRState) : Prop :=
  s.version ≤ 40 ∧ (∀ m, s.mask = some m → m ≤ 7) ∧ s.dataCache.isSome = true ∧
    ∃ v, 1 ≤ v ∧ v ≤ 40 ∧ s.modulesCount = v * 4 + 17

/-- an output `o` of an operation that took the object from `pre` to `post` -/
def OutOK (pre post : QRState) (o : Out) : Prop :=
  match o with
  | .matrix m => Produced post ∧ (pre.dataCache = none ∨ pre.version ≠ 0 → 1 ≤ post.version) ∧
      m = framedOpt post.modules.toLists post.border
  | .image b n bs m => Produced post ∧ (pre.dataCache = none ∨ pre.version ≠ 0 → 1 ≤ post.version) ∧
      0 < post.boxSize ∧ b = post.border ∧ n = post.modulesCount ∧ bs = post.boxSize ∧ m = post.modules.toLists
  | .text b m => Produced post ∧ (pre.dataCache = none ∨ pre.version ≠ 0 → 1 ≤ post.version) ∧
      (b = post.border ∨ b = 1) ∧ m = post.modules.toLists
  | _ => True

theorem ensureMade_produced {g g' : Global} {s s' : QRState} {u : Unit} (hg : GInv g) (hs : SettingsInv s)
    (hc : CacheInv s) (h : ensureMade (g, s) = ((g', s'), .ok u)) :
    Produced s' ∧ (s.dataCache = none ∨ s.version ≠ 0 → 1 ≤ s'.version) ∧ s'.boxSize = s.boxSize := by
  unfold ensureMade at h
  cases hdc : s.dataCache with
  | some d =>
    simp only [hdc] at h
    cases h
    have hsome : s.dataCache.isSome = true := by rw [hdc]; rfl
    refine ⟨⟨hs.1, hs.2, hsome, hc hsome⟩, fun hn => ?_, rfl⟩
    rcases hn with hn | hn
    · cases hn
    · omega
  | none =>
    simp only [hdc] at h
    obtain ⟨_, a2, a3, a4, a5⟩ := makeS_inv hg h
    obtain ⟨b1, b2⟩ := a5 rfl
    exact ⟨⟨a2 hs.1, MaskOK.of_eq a3.mask hs.2, b1, a4 b1⟩, fun _ => b2, a3.boxSize⟩

theorem step_out (g : Global) (s : QRState) (op : Op) (hg : GInv g) (hs : SettingsInv s) (hc : CacheInv s) :
    OutOK s (step (g, s) op).1.2 (step (g, s) op).2 := by
  have hread : ∀ op, op.reads = true → OutOK s (step (g, s) op).1.2 (step (g, s) op).2 := fun op hop => by
    rw [step_read hop]
    cases hb : readGuard op s with
    | error e => trivial
    | ok u0 =>
      cases h : ensureMade (g, s) with
      | mk st r =>
        obtain ⟨g', s'⟩ := st
        cases r with
        | error e => trivial
        | ok u =>
          obtain ⟨a1, a2, a3⟩ := ensureMade_produced hg hs hc h
          cases op <;> try cases hop
          · exact ⟨a1, a2, rfl⟩
          · refine ⟨a1, a2, ?_, rfl, rfl, rfl, rfl⟩
            rw [a3]
            exact checkBoxSize_ok.1 hb
          · exact ⟨a1, a2, Or.inl rfl, rfl⟩
          · exact ⟨a1, a2, Or.inr rfl, rfl⟩
  cases op with
  | getMatrix | makeImage | printAscii | printTty => exact hread _ rfl
  | make fit =>
    simp only [step]
    cases makeS fit (g, s) with
    | mk st r => cases r <;> trivial
  | setVersion x =>
    cases x with
    | none => trivial
    | some v => simp only [step]; cases checkVersion v <;> trivial
  | setMask x => simp only [step]; cases checkMaskPattern x <;> trivial
  | setBorder x => simp only [step]; cases checkBorder x <;> trivial
  | _ => trivial

/-- every matrix, image or text that a run hands out was handed out in a `Produced` state -/
theorem run_out (ops : List Op) (g0 : Global) (s0 : QRState) (hg : GInv g0) (hs : SettingsInv s0) (hc : CacheInv s0)
    (k : Nat) (o : Out) (h : (run (g0, s0) ops).2[k]? = some o) :
    OutOK (run (g0, s0) (ops.take k)).1.2 (run (g0, s0) (ops.take (k + 1))).1.2 o := by
  induction ops generalizing g0 s0 k with
  | nil => simp [run_nil] at h
  | cons op ops ih =>
    rw [run_cons] at h
    cases k with
    | zero =>
      simp only [List.getElem?_cons_zero, Option.some.injEq] at h
      subst h
      simp only [List.take_zero, run_nil, Nat.zero_add, List.take_succ_cons, run_cons]
      exact step_out g0 s0 op hg hs hc
    | succ k =>
      obtain ⟨a1, a2, a3, a4, _⟩ := step_inv g0 s0 op hg
      simp only [List.take_succ_cons, run_cons]
      exact ih _ _ a1 ⟨a2 hs.1, a3 hs.2⟩ (a4 hc) k h

end QR
