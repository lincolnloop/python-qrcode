import QR.Model.Data
import QR.Spec.Stream
import QR.Proofs.Finite
import QR.Proofs.C02Tables
/-
C07 - fitting (finite part: the capacity table the bisect runs on is 8 x ISO data codewords, increasing).
-/
namespace QR.Props

/-- `BIT_LIMIT_TABLE[level][v]` = 8 · (ISO data codewords of (v, level)); entry 0 is 0 -/
theorem C07_capacity_table : ∀ l ∈ allLevels,
    ∃ row, Gen.BIT_LIMIT_TABLE[l.indicator]? = some row ∧ row.length = 41 ∧ row[0]? = some 0 ∧
      ∀ v, v < 40 → row[v + 1]? = some (Spec.capacityBits (v + 1) l) := by
  have h : allLevels.all (fun l =>
      match Gen.BIT_LIMIT_TABLE[l.indicator]? with
      | some row => row.length == 41 && row[0]? == some 0 &&
          (List.range 40).all fun v => row[v + 1]? == some (Spec.capacityBits (v + 1) l)
      | none => false) = true := by decide +kernel
  intro l hl
  have := forall_mem_of_all h l hl
  revert this
  cases Gen.BIT_LIMIT_TABLE[l.indicator]? with
  | none => intro h; simp at h
  | some row =>
    intro h
    simp only [Bool.and_eq_true, beq_iff_eq, List.all_eq_true, List.mem_range] at h
    exact ⟨row, rfl, h.1.1, h.1.2, h.2⟩

/-- capacities strictly increase with the version at every level (the bisect precondition) -/
theorem C07_capacity_monotone : ∀ l ∈ allLevels, ∀ v, v < 39 →
    Spec.capacityBits (v + 1) l < Spec.capacityBits (v + 2) l := by
  have h : allLevels.all (fun l => (List.range 39).all fun v =>
      decide (Spec.capacityBits (v + 1) l < Spec.capacityBits (v + 2) l)) = true := by decide +kernel
  intro l hl v hv
  simpa using forall_lt_of_all (forall_mem_of_all h l hl) v hv

theorem capacityBits_mono (l : Spec.Level) {u v : Nat} (h1 : 1 ≤ u) (huv : u ≤ v) (h40 : v ≤ 40) :
    Spec.capacityBits u l ≤ Spec.capacityBits v l := by
  induction v with
  | zero => omega
  | succ v ih =>
    by_cases h : u = v + 1
    · rw [h]; exact Nat.le_refl _
    · have := C07_capacity_monotone l (mem_allLevels l) (v - 1) (by omega)
      rw [show v - 1 + 1 = v by omega, show v - 1 + 2 = v + 1 by omega] at this
      exact Nat.le_trans (ih (by omega) (by omega)) (Nat.le_of_lt this)

/-- published capacities (tests of the Spec): 40-L 7089/4296/2953, 40-H 3057/1852/1273, 1-L 41/25/17, 1-H 17/10/7 -/
example : Spec.isoCapacity .numeric 40 .L = 7089 ∧ Spec.isoCapacity .alnum 40 .L = 4296 ∧ Spec.isoCapacity .byte 40 .L = 2953 := by decide
example : Spec.isoCapacity .numeric 40 .H = 3057 ∧ Spec.isoCapacity .alnum 40 .H = 1852 ∧ Spec.isoCapacity .byte 40 .H = 1273 := by decide
example : Spec.isoCapacity .numeric 1 .L = 41 ∧ Spec.isoCapacity .alnum 1 .L = 25 ∧ Spec.isoCapacity .byte 1 .L = 17 := by decide
example : Spec.isoCapacity .numeric 1 .H = 17 ∧ Spec.isoCapacity .alnum 1 .H = 10 ∧ Spec.isoCapacity .byte 1 .H = 7 := by decide
example : Spec.isoCapacity .numeric 10 .L = 652 ∧ Spec.isoCapacity .alnum 10 .L = 395 ∧ Spec.isoCapacity .byte 10 .L = 271 := by decide

end QR.Props
