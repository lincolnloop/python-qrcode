import QR.Gen.Code
import QR.Model.Matrix
import QR.Proofs.Lists
import QR.Proofs.StreamBits
import QR.Proofs.Traversal
/-
Translation validation: `QRCode.map_data` complete.
The fragments `QR.Gen.Code.map_*` are produced by tools/t2_fragments/frag_c.py from the Python AST (initial values, column
prelude, the tuple of columns, the `is None` test cell, the value block computing `dark`, the written cell, the bit/byte index
update, the row update, the exit test and the turn).  Here they are assembled by a generic interpreter of the loop skeleton
`for col in range(a, b, s): <prelude>; while True: for c in <values>: <cell>; <row step>; if <exit>: <turn>; break`
and the hand-written `Model.mapData` (a fold over the precomputed traversal `trav n` consuming a bit list) is proved equal to
the result, for every odd module count (Python: `modules_count = 4 * version + 17`).
-/
namespace QR.SourceTieT
open QR.Model QR.Gen.Code QR.GeoC

/-- Python list indexing `xs[i]` on a list of length `n`: negative indices count from the end -/
def pyIdx (n : Nat) (i : Int) : Nat := if i < 0 then (i + n).toNat else i.toNat

/-- Python `range(a, b, s)` -/
def pyRange3 (a b s : Int) : List Int :=
  if s > 0 then (List.range ((b - a + s - 1) / s).toNat).map fun (k : Nat) => a + s * (k : Int)
  else if s < 0 then (List.range ((a - b + (-s) - 1) / (-s)).toNat).map fun (k : Nat) => a + s * (k : Int)
  else []

/-- the local state of `map_data` -/
structure MapSt where
  m : Mat
  inc : Int
  row : Int
  bitIndex : Int
  byteIndex : Int

section interp
variable (n : Nat) (maskf : Nat → Nat → Bool) (data : List Nat)

/-- the body of `for c in …:` - the `if self.modules[row][c] is None:` statement -/
def mapCell (col c : Int) (s : MapSt) : MapSt :=
  let t := map_cell_test n data.length col c s.inc s.row s.bitIndex s.byteIndex
  if s.m.get (pyIdx n t.1) (pyIdx n t.2) = none then
    let dark := map_dark (fun r c => maskf r.toNat c.toNat) (fun i => data.getD (pyIdx data.length i) 0)
      n data.length col c s.inc s.row s.bitIndex s.byteIndex
    let w := map_cell_write n data.length col c s.inc s.row s.bitIndex s.byteIndex
    let b := map_bits_step n data.length col c s.inc s.row s.bitIndex s.byteIndex
    { s with m := s.m.set (pyIdx n w.1) (pyIdx n w.2) (some dark), bitIndex := b.1, byteIndex := b.2 }
  else s

/-- `for c in <values>: <cell>` -/
def rowBody (col : Int) (s : MapSt) : MapSt := (map_c_values n col).foldl (fun s c => mapCell n maskf data col c s) s

/-- `while True:` with fuel; `none` = the fuel ran out before the `break` -/
def rowLoop (col : Int) : Nat → MapSt → Option MapSt
  | 0, _ => none
  | fuel + 1, s =>
    let s1 := rowBody n maskf data col s
    let r := map_row_step n data.length col s1.inc s1.row s1.bitIndex s1.byteIndex
    let s2 := { s1 with inc := r.1, row := r.2 }
    if map_row_exit n data.length col s2.inc s2.row s2.bitIndex s2.byteIndex then
      let t := map_row_turn n data.length col s2.inc s2.row s2.bitIndex s2.byteIndex
      some { s2 with inc := t.1, row := t.2 }
    else rowLoop col fuel s2

/-- `for col in …:` -/
def colLoop (fuel : Nat) : List Int → MapSt → Option MapSt
  | [], s => some s
  | col :: cols, s =>
    match rowLoop n maskf data (map_col_pre n col) fuel s with
    | none => none
    | some s' => colLoop fuel cols s'

/-- `map_data(data, mask_pattern)` as assembled from the translated fragments; `fuel` bounds every `while True` -/
def srcMapData (fuel : Nat) (m : Mat) : Option Mat :=
  let i := map_init n
  let r := map_col_range n
  (colLoop n maskf data fuel (pyRange3 r.1 r.2.1 r.2.2) ⟨m, i.1, i.2.1, i.2.2.1, i.2.2.2⟩).map (·.m)

end interp

/-! ### the translated pieces in closed form -/

theorem map_init_eq (n : Int) : map_init n = (-1, n - 1, 7, 0) := rfl

theorem map_col_pre_eq (n col : Int) : map_col_pre n col = if col ≤ 6 then col - 1 else col := by
  unfold map_col_pre
  by_cases h : col ≤ 6 <;> simp [h]

theorem map_c_values_eq (n col : Int) : map_c_values n col = [col, col - 1] := rfl

theorem map_dark_eq (maskf : Int → Int → Bool) (dataAt : Int → Nat) (n dataLen col c inc row : Int) (j q : Nat) :
    map_dark maskf dataAt n dataLen col c inc row j q =
      xor (decide ((q : Int) < dataLen) && (dataAt q).testBit j) (maskf row c) := by
  unfold map_dark
  simp only [Int.toNat_natCast, decide_shiftRight_and_one]
  by_cases h1 : (q : Int) < dataLen <;> by_cases h2 : maskf row c = true <;> simp [h1, h2]

/-- `bitIndex -= 1; if bitIndex == -1: byteIndex += 1; bitIndex = 7`, from bit 0 and from a higher bit -/
theorem map_bits_step_zero (n dataLen col c inc row : Int) (q : Nat) :
    map_bits_step n dataLen col c inc row (0 : Nat) q = (7, (q : Int) + 1) := by
  simp [map_bits_step]

theorem map_bits_step_succ (n dataLen col c inc row : Int) (j q : Nat) :
    map_bits_step n dataLen col c inc row ((j + 1 : Nat) : Int) q = ((j : Int), (q : Int)) := by
  simp [map_bits_step]

theorem map_row_step_eq (n dataLen col inc row bi by_ : Int) : map_row_step n dataLen col inc row bi by_ = (inc, row + inc) := rfl

theorem map_row_exit_eq (n dataLen col inc row bi by_ : Int) :
    map_row_exit n dataLen col inc row bi by_ = (decide (row < 0) || decide (n ≤ row)) := rfl

theorem map_row_turn_eq (n dataLen col inc row bi by_ : Int) : map_row_turn n dataLen col inc row bi by_ = (-inc, row - inc) := rfl

/-- the Model's state (matrix, unconsumed bits) of a source state: about to read bit `bitIndex` of `data[byteIndex]`,
    `map_data` has consumed `8 * byteIndex + (7 - bitIndex)` bits -/
def absSt (data : List Nat) (s : MapSt) : Mat × List Bool :=
  (s.m, (codewordBits data).drop (8 * s.byteIndex.toNat + (7 - s.bitIndex.toNat)))

/-- `0 <= bitIndex <= 7` and `0 <= byteIndex`: holds whenever the cell body is entered -/
def Good (s : MapSt) : Prop := 0 ≤ s.bitIndex ∧ s.bitIndex ≤ 7 ∧ 0 ≤ s.byteIndex

theorem pyIdx_nat (n k : Nat) : pyIdx n (k : Int) = k := by
  unfold pyIdx
  rw [if_neg (by omega)]
  simp

theorem mapCell_sim (n : Nat) (data : List Nat) (mask : Nat) (col : Int) (r c : Nat) (s : MapSt) (hr : s.row = r) (hg : Good s) :
    absSt data (mapCell n (maskFunc mask) data col c s) = placeCell mask (absSt data s) (r, c) ∧
    Good (mapCell n (maskFunc mask) data col c s) ∧
    (mapCell n (maskFunc mask) data col c s).row = s.row ∧ (mapCell n (maskFunc mask) data col c s).inc = s.inc := by
  obtain ⟨m, inc, row, bi, by_⟩ := s
  simp only at hr
  subst hr
  obtain ⟨h1, h2, h3⟩ := hg
  simp only at h1 h2 h3
  obtain ⟨j, rfl⟩ := Int.eq_ofNat_of_zero_le h1
  obtain ⟨q, rfl⟩ := Int.eq_ofNat_of_zero_le h3
  unfold mapCell
  simp only [map_cell_test, map_cell_write, pyIdx_nat]
  cases hm : m.get r c with
  | some b =>
    simp only [reduceCtorEq, if_false, absSt, placeCell, hm, Good]
    exact ⟨trivial, ⟨h1, h2, h3⟩, trivial, trivial⟩
  | none =>
    have hj : j ≤ 7 := by omega
    simp only [if_true, absSt, placeCell, hm, Good, Int.toNat_natCast, map_dark_eq, pyIdx_nat, List.headD_eq_head?_getD,
      List.head?_drop, List.tail_drop, codewordBits_getD j hj, Int.ofNat_lt]
    cases j with
    | zero =>
      simp only [map_bits_step_zero]
      refine ⟨?_, ⟨by omega, by omega, by omega⟩, trivial, trivial⟩
      rw [show 8 * ((q : Int) + 1).toNat + (7 - Int.toNat 7) = 8 * q + (7 - 0) + 1 by omega]
    | succ j =>
      simp only [map_bits_step_succ, Int.toNat_natCast]
      refine ⟨?_, ⟨by omega, by omega, by omega⟩, trivial, trivial⟩
      rw [show 8 * q + (7 - (j + 1)) + 1 = 8 * q + (7 - j) by omega]

theorem rowBody_sim (n : Nat) (data : List Nat) (mask : Nat) (c0 : Nat) (hc : 1 ≤ c0) (r : Nat) (s : MapSt)
    (hr : s.row = r) (hg : Good s) :
    absSt data (rowBody n (maskFunc mask) data c0 s) = placeCell mask (placeCell mask (absSt data s) (r, c0)) (r, c0 - 1) ∧
    Good (rowBody n (maskFunc mask) data c0 s) ∧
    (rowBody n (maskFunc mask) data c0 s).row = r ∧ (rowBody n (maskFunc mask) data c0 s).inc = s.inc := by
  have e : ((c0 : Int) - 1) = ((c0 - 1 : Nat) : Int) := by omega
  have hs1 : rowBody n (maskFunc mask) data c0 s =
      mapCell n (maskFunc mask) data c0 ((c0 - 1 : Nat) : Int) (mapCell n (maskFunc mask) data c0 (c0 : Int) s) := by
    simp only [rowBody, map_c_values_eq, List.foldl_cons, List.foldl_nil, e]
  obtain ⟨a1, a2, a3, a4⟩ := mapCell_sim n data mask c0 r c0 s hr hg
  obtain ⟨b1, b2, b3, b4⟩ := mapCell_sim n data mask c0 r (c0 - 1) _ (a3.trans hr) a2
  rw [hs1]
  refine ⟨?_, b2, by rw [b3, a3, hr], by rw [b4, a4]⟩
  rw [b1, a1]

/-- the equation of `rowLoop`, in the form of its body (`rw [rowLoop]` takes a second to make the same equation) -/
theorem rowLoop_succ (n : Nat) (maskf : Nat → Nat → Bool) (data : List Nat) (col : Int) (fuel : Nat) (s : MapSt) :
    rowLoop n maskf data col (fuel + 1) s =
      (let s1 := rowBody n maskf data col s
       let r := map_row_step n data.length col s1.inc s1.row s1.bitIndex s1.byteIndex
       let s2 := { s1 with inc := r.1, row := r.2 }
       if map_row_exit n data.length col s2.inc s2.row s2.bitIndex s2.byteIndex then
         let t := map_row_turn n data.length col s2.inc s2.row s2.bitIndex s2.byteIndex
         some { s2 with inc := t.1, row := t.2 }
       else rowLoop n maskf data col fuel s2) := rfl

/-- one pass of `while True:` from row `r`, in the Model's terms: the two cells of the row are placed (right one first, as in
    a `GeoC.strip`), `row += inc`; then the loop turns and leaves if the row is outside the matrix, and goes on from there
    otherwise (`absSt` and `Good` do not look at `row` / `inc`) -/
theorem rowLoop_step (n : Nat) (data : List Nat) (mask : Nat) (c0 : Nat) (hc : 1 ≤ c0) (r fuel : Nat) (s : MapSt)
    (hr : s.row = r) (hg : Good s) :
    ∃ t : MapSt, absSt data t = placeCell mask (placeCell mask (absSt data s) (r, c0)) (r, c0 - 1) ∧ Good t ∧
      rowLoop n (maskFunc mask) data c0 (fuel + 1) s =
        if (r : Int) + s.inc < 0 ∨ (n : Int) ≤ r + s.inc then some { t with inc := -s.inc, row := r + s.inc - s.inc }
        else rowLoop n (maskFunc mask) data c0 fuel { t with inc := s.inc, row := r + s.inc } := by
  obtain ⟨a1, a2, a3, a4⟩ := rowBody_sim n data mask c0 hc r s hr hg
  refine ⟨_, a1, a2, ?_⟩
  rw [rowLoop_succ]
  simp only [map_row_step_eq, map_row_exit_eq, map_row_turn_eq, Bool.or_eq_true, decide_eq_true_eq, a3, a4]

/-- walking a column pair upwards: from row `k` (`inc = -1`) the loop visits rows `k, k-1, …, 0`, then turns -/
theorem rowLoop_up (n : Nat) (data : List Nat) (mask : Nat) (c0 : Nat) (hc : 1 ≤ c0) :
    ∀ (fuel k : Nat) (s : MapSt), k < n → k + 1 ≤ fuel → s.row = k → s.inc = -1 → Good s →
    ∃ s', rowLoop n (maskFunc mask) data c0 fuel s = some s' ∧
      absSt data s' = (strip (List.range (k + 1)).reverse c0).foldl (placeCell mask) (absSt data s) ∧
      Good s' ∧ s'.row = 0 ∧ s'.inc = 1
  | 0, _, _, _, hf, _, _, _ => by omega
  | fuel + 1, k, s, hk, hf, hr, hi, hg => by
    obtain ⟨t, a1, a2, hx⟩ := rowLoop_step n data mask c0 hc k fuel s hr hg
    rw [hi] at hx
    cases k with
    | zero =>
      rw [if_pos (by omega)] at hx
      refine ⟨_, hx, ?_, a2, by simp, by simp⟩
      show absSt data t = _
      rw [a1, show (List.range (0 + 1)).reverse = [0] from rfl, strip_cons, List.foldl_cons, List.foldl_cons]
      exact (List.foldl_nil).symm
    | succ k =>
      rw [if_neg (by omega)] at hx
      obtain ⟨s', b1, b2, b3⟩ := rowLoop_up n data mask c0 hc fuel k { t with inc := -1, row := ((k + 1 : Nat) : Int) + -1 }
        (by omega) (by omega) (by simp only; omega) rfl a2
      refine ⟨s', hx.trans b1, ?_, b3⟩
      rw [b2, show absSt data { t with inc := -1, row := ((k + 1 : Nat) : Int) + -1 } = absSt data t from rfl, a1,
        List.range_succ (n := k + 1), List.reverse_append, List.reverse_singleton, List.singleton_append, strip_cons,
        List.foldl_cons, List.foldl_cons]

/-- walking a column pair downwards: from row `j` (`inc = 1`) the loop visits rows `j, j+1, …, n-1`, then turns -/
theorem rowLoop_down (n : Nat) (data : List Nat) (mask : Nat) (c0 : Nat) (hc : 1 ≤ c0) :
    ∀ (fuel d j : Nat) (s : MapSt), j + d + 1 = n → d + 1 ≤ fuel → s.row = j → s.inc = 1 → Good s →
    ∃ s', rowLoop n (maskFunc mask) data c0 fuel s = some s' ∧
      absSt data s' = (strip (List.range' j (d + 1)) c0).foldl (placeCell mask) (absSt data s) ∧
      Good s' ∧ s'.row = (n : Int) - 1 ∧ s'.inc = -1
  | 0, _, _, _, _, hf, _, _, _ => by omega
  | fuel + 1, d, j, s, hk, hf, hr, hi, hg => by
    obtain ⟨t, a1, a2, hx⟩ := rowLoop_step n data mask c0 hc j fuel s hr hg
    rw [hi] at hx
    cases d with
    | zero =>
      rw [if_pos (by omega)] at hx
      refine ⟨_, hx, ?_, a2, by simp only; omega, by simp⟩
      show absSt data t = _
      rw [a1, show List.range' j (0 + 1) = [j] from rfl, strip_cons, List.foldl_cons, List.foldl_cons]
      exact (List.foldl_nil).symm
    | succ d =>
      rw [if_neg (by omega)] at hx
      obtain ⟨s', b1, b2, b3⟩ := rowLoop_down n data mask c0 hc fuel d (j + 1) { t with inc := 1, row := (j : Int) + 1 }
        (by omega) (by omega) (by simp only; omega) rfl a2
      refine ⟨s', hx.trans b1, ?_, b3⟩
      rw [b2, show absSt data { t with inc := 1, row := (j : Int) + 1 } = absSt data t from rfl, a1]
      conv => rhs; rw [List.range'_succ, strip_cons, List.foldl_cons, List.foldl_cons]

/-- the `k`-th value of `range(n - 1, 0, -2)` after the prelude `if col <= 6: col -= 1` is the Model's `pairCol n k` -/
theorem map_col_pre_pairCol (n k : Nat) (hodd : n % 2 = 1) (hk : k < n / 2) :
    map_col_pre n ((n : Int) - 1 + -2 * (k : Int)) = ((pairCol n k : Nat) : Int) ∧ 1 ≤ pairCol n k := by
  have e : pairCol n k = if n - 1 - 2 * k ≤ 6 then n - 1 - 2 * k - 1 else n - 1 - 2 * k := rfl
  rw [map_col_pre_eq, e]
  constructor
  · split <;> split <;> omega
  · split <;> omega

theorem pyRange3_cols (n : Nat) :
    pyRange3 ((n : Int) - 1) 0 (-2) = (List.range (n / 2)).map fun (k : Nat) => (n : Int) - 1 + -2 * (k : Int) := by
  unfold pyRange3
  rw [if_neg (by decide), if_pos (by decide)]
  have : (((n : Int) - 1 - 0 + -(-2) - 1) / -(-2)).toNat = n / 2 := by
    rw [Int.neg_neg]
    omega
  rw [this]

theorem colLoop_cons {n : Nat} {maskf : Nat → Nat → Bool} {data : List Nat} {fuel : Nat} {col : Int} {cols : List Int}
    {s s1 : MapSt} (h : rowLoop n maskf data (map_col_pre n col) fuel s = some s1) :
    colLoop n maskf data fuel (col :: cols) s = colLoop n maskf data fuel cols s1 := by
  simp only [colLoop, h]

theorem colLoop_sim (n : Nat) (data : List Nat) (mask fuel : Nat) (hodd : n % 2 = 1) (hf : n ≤ fuel) :
    ∀ (cnt k0 : Nat) (s : MapSt), k0 + cnt = n / 2 → Good s →
      (k0 % 2 = 0 → s.row = (n : Int) - 1 ∧ s.inc = -1) → (k0 % 2 = 1 → s.row = 0 ∧ s.inc = 1) →
      ∃ s', colLoop n (maskFunc mask) data fuel ((List.range' k0 cnt).map fun (k : Nat) => (n : Int) - 1 + -2 * (k : Int)) s = some s' ∧
        absSt data s' = ((List.range' k0 cnt).flatMap fun k =>
          strip (if k % 2 = 0 then (List.range n).reverse else List.range n) (pairCol n k)).foldl
            (placeCell mask) (absSt data s) := by
  intro cnt
  induction cnt with
  | zero =>
    intro k0 s _ _ _ _
    exact ⟨s, rfl, rfl⟩
  | succ cnt ih =>
    intro k0 s hk hg he ho
    obtain ⟨hc1, hc2⟩ := map_col_pre_pairCol n k0 hodd (by omega)
    rw [List.range'_succ, List.map_cons, List.flatMap_cons, List.foldl_append]
    have hn : n - 1 + 1 = n := by omega
    by_cases hpar : k0 % 2 = 0
    · obtain ⟨hr, hi⟩ := he hpar
      obtain ⟨s1, a1, a2, a3, a4, a5⟩ := rowLoop_up n data mask (pairCol n k0) hc2 fuel (n - 1) s (by omega) (by omega)
        (by rw [hr]; omega) hi hg
      rw [← hc1] at a1
      rw [colLoop_cons a1]
      obtain ⟨s', b1, b2⟩ := ih (k0 + 1) s1 (by omega) a3 (fun h => by omega) (fun _ => ⟨a4, a5⟩)
      refine ⟨s', b1, ?_⟩
      rw [b2, a2, if_pos hpar, hn]
    · obtain ⟨hr, hi⟩ := ho (by omega)
      obtain ⟨s1, a1, a2, a3, a4, a5⟩ := rowLoop_down n data mask (pairCol n k0) hc2 fuel (n - 1) 0 s (by omega) (by omega)
        (by rw [hr]; rfl) hi hg
      rw [← hc1] at a1
      rw [colLoop_cons a1]
      obtain ⟨s', b1, b2⟩ := ih (k0 + 1) s1 (by omega) a3 (fun _ => ⟨a4, a5⟩) (fun h => by omega)
      refine ⟨s', b1, ?_⟩
      rw [b2, a2, if_neg hpar, hn, List.range_eq_range']

/-- **map_data**: for every odd module count `n` (Python: `modules_count = 4 * version + 17`), every matrix, codeword list and
    mask pattern, and every fuel `≥ n` for the `while True` loops: the loop skeleton instantiated with the translated
    fragments terminates (every `while True` reaches its `break`) and leaves exactly the matrix `Model.mapData` computes. -/
theorem mapData_src (n : Nat) (hodd : n % 2 = 1) (m : Mat) (data : List Nat) (mask fuel : Nat) (hf : n ≤ fuel) :
    srcMapData n (maskFunc mask) data fuel m = some (mapData n m data mask) := by
  unfold srcMapData
  simp only [map_init_eq, map_col_range]
  rw [pyRange3_cols, List.range_eq_range']
  obtain ⟨s', b1, b2⟩ := colLoop_sim n data mask fuel hodd hf (n / 2) 0 ⟨m, -1, (n : Int) - 1, 7, 0⟩ (by omega)
    ⟨by simp only; omega, by simp only; omega, by simp only; omega⟩ (fun _ => ⟨rfl, rfl⟩) (fun h => by omega)
  rw [b1]
  simp only [Option.map_some]
  have e : absSt data ⟨m, -1, (n : Int) - 1, 7, 0⟩ = (m, codewordBits data) := rfl
  rw [e, ← List.range_eq_range', ← trav_eq_strips] at b2
  show some s'.m = some ((trav n).foldl (placeCell mask) (m, codewordBits data)).1
  rw [← b2]
  rfl

/-- the instance Python uses: `modules_count = version * 4 + 17` -/
theorem mapData_src_version (version : Nat) (m : Mat) (data : List Nat) (mask : Nat) :
    srcMapData (version * 4 + 17) (maskFunc mask) data (version * 4 + 17) m = some (mapData (version * 4 + 17) m data mask) :=
  mapData_src _ (by omega) m data mask _ (Nat.le_refl _)

end QR.SourceTieT
