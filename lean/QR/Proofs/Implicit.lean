import QR.Proofs.History
import QR.Proofs.Total
/-
C16 / C15 "compiling the symbol first if necessary" and C03 "no other exception escapes" for `get_matrix`, `make_image`,
`print_ascii`, `print_tty`: on an object that has not been compiled (`data_cache is None`) each yields the symbol of a fresh
`compile` with `fit=True` of the current settings and data, or DataOverflowError exactly when that compile overflows
(`make_image`: ValueError for a non-positive `box_size` first).  From `makeS_spec` and `C03_total`, for the four at once
(`step_read`).  `Model.Op` gives them no stream and no arguments: OSError on a stream that is not a tty (`C15_refuse`) and
`make_image`'s embedded-image / factory tests (`make_image_embedded_src`, `C18_source_make_image_rest_bad_factory_src`) are outside.
-/
namespace QR.Proofs.Implicit
open QR.Model

/-- the hypotheses: the process-wide blank cache is sound (`GInv`, = `Props.Global.Inv`: established by the empty cache
    and preserved by every operation), the settings are what the constructor / setters accept (version `None` or
    1..40, mask `None` or 0..7, one of the four ISO levels), the data list is what `add_data` produces, and the object
    has not been compiled since the last change (`data_cache is None`) -/
structure Pre (g : Global) (s : QRState) (l : Spec.Level) : Prop where
  ginv : GInv g
  version : s.version ≤ 40
  mask : ∀ m, s.mask = some m → m ≤ 7
  level : s.level = l.indicator
  segs : ∀ x ∈ s.dataList, x.Valid
  cache : s.dataCache = none

theorem ensureMade_fresh {g : Global} {s : QRState} {l : Spec.Level} (h : Pre g s l) :
    match compile (cfgOf s true) s.dataList with
    | .ok (v, _, M) =>
        ∃ g' s', ensureMade (g, s) = ((g', s'), .ok ()) ∧ GInv g' ∧ SameButVersion s s' ∧
          s'.version = v ∧ s'.modules = M ∧ s'.modulesCount = v * 4 + 17 ∧ s'.dataCache.isSome = true
    | .error e =>
        e = .dataOverflow ∧
        ∃ g' s', ensureMade (g, s) = ((g', s'), .error .dataOverflow) ∧ GInv g' ∧ SameButVersion s s' := by
  have hen : ensureMade (g, s) = makeS true (g, s) := by
    unfold ensureMade; simp only [h.cache]
  cases hm : makeS true (g, s) with
  | mk st r =>
    obtain ⟨g', s'⟩ := st
    obtain ⟨a1, a2, _, a4, a5⟩ := makeS_spec h.ginv hm
    cases hc : compile (cfgOf s true) s.dataList with
    | ok p =>
      rw [hc] at a5
      obtain ⟨rfl, a6, a7, a8⟩ := a5
      exact ⟨g', s', hen.trans hm, a1, a2, a6, a7, a6 ▸ (a4 a8).2.2, a8⟩
    | error e =>
      rw [hc] at a5
      have he : e = .dataOverflow := by
        rcases Proofs.C03_total (cfgOf s true) ⟨h.version, h.mask⟩ l h.level s.dataList h.segs with ⟨p, hp⟩ | hp
        · rw [hc] at hp
          cases hp
        · rw [hc] at hp
          exact Except.error.inj hp
      exact ⟨he, g', s', hen.trans (hm.trans (by rw [a5.2 h.version, he])), a1, a2⟩

/-- `hgd`: `make_image`'s box-size check raises before anything is compiled (`step_read`), so the fresh compile says
    nothing about that case -/
theorem step_fresh {g : Global} {s : QRState} {l : Spec.Level} (h : Pre g s l) {op : Op} (hop : op.reads = true)
    (hgd : readGuard op s = .ok ()) :
    match compile (cfgOf s true) s.dataList with
    | .ok (v, _, M) =>
        (step (g, s) op).2 = readout op { s with modules := M, modulesCount := v * 4 + 17 } ∧
        GInv (step (g, s) op).1.1 ∧ SameButVersion s (step (g, s) op).1.2 ∧ (step (g, s) op).1.2.version = v ∧
        (step (g, s) op).1.2.modules = M ∧ (step (g, s) op).1.2.dataCache.isSome = true
    | .error e => e = .dataOverflow ∧ (step (g, s) op).2 = .err .dataOverflow := by
  have := ensureMade_fresh h
  rw [step_read hop, hgd]
  cases hc : compile (cfgOf s true) s.dataList with
  | ok r =>
    obtain ⟨v, m, M⟩ := r
    rw [hc] at this
    obtain ⟨g', s', he, hg, hs, hv, hM, hcnt, hd⟩ := this
    simp only [he]
    refine ⟨?_, hg, hs, hv, hM, hd⟩
    cases op with
    | getMatrix | makeImage | printAscii | printTty => simp only [readout, hM, hs.border, hs.boxSize, hcnt]
    | _ => cases hop
  | error e =>
    rw [hc] at this
    obtain ⟨he', g', s', he, _⟩ := this
    simp only [he]
    exact ⟨he', trivial⟩

/-- C03 for the entry points: the only errors of the Model's four operations are DataOverflowError - only when the
    fresh compile overflows (and then always, past `make_image`'s check: `step_fresh`) - and `make_image`'s ValueError
    for a non-positive box size -/
theorem entry_points {g : Global} {s : QRState} {l : Spec.Level} (h : Pre g s l) (op : Op)
    (hop : op = .getMatrix ∨ op = .makeImage ∨ op = .printAscii ∨ op = .printTty) (e : Err)
    (he : (step (g, s) op).2 = .err e) :
    (e = .dataOverflow ∧ compile (cfgOf s true) s.dataList = .error .dataOverflow) ∨
    (e = .valueError ∧ op = .makeImage ∧ s.boxSize ≤ 0) := by
  have hop := Op.reads_of hop
  cases hgd : readGuard op s with
  | error e' =>
    rw [step_read hop, hgd] at he
    cases he
    exact Or.inr (readGuard_error hgd)
  | ok u =>
    have := step_fresh h hop hgd
    cases hc : compile (cfgOf s true) s.dataList with
    | ok r =>
      obtain ⟨v, m, M⟩ := r
      rw [hc] at this
      rw [this.1] at he
      cases op <;> cases he
    | error e' =>
      rw [hc] at this
      obtain ⟨rfl, h2⟩ := this
      rw [h2] at he
      cases he
      exact Or.inl ⟨rfl, rfl⟩

end QR.Proofs.Implicit
