import QR.Proofs.Symbol
import QR.Proofs.Total
/-
C01, composition: the strict ISO reader `Spec.read`, step by step, on the matrix `makeImpl` builds from the codewords
`create_data` returns.
-/
namespace QR.Sym

theorem ebind_ok {ε α β} (a : α) (f : α → Except ε β) : (Except.ok a >>= f) = f a := rfl
theorem epure {ε α} (a : α) : (pure a : Except ε α) = Except.ok a := rfl

/-- the reader, given the outcome of each of its steps -/
theorem read_eq (S : Spec.Sym) (v : Nat) (l : Spec.Level) (mask : Nat) (data buf : List Nat)
    (ps : List Spec.PSeg) (tc : Bool) (k : Nat)
    (hn : Spec.versionOfSize S.n = some v)
    (hf : Spec.readFormat S = .ok (l, mask))
    (hvi : Spec.versionInfoOK S v = true)
    (hfn : Spec.functionOK S v = true)
    (hlen : (Spec.readRaw S v mask).length = Spec.rawModules v)
    (hrem : (Spec.readRaw S v mask).drop (8 * Spec.totalCodewords v) = List.replicate k false)
    (hcw : Spec.bytesOfBits (Spec.totalCodewords v) (Spec.readRaw S v mask) = data)
    (hblocks : ∀ b ∈ Spec.blocksOf v l data, Spec.isCodeword (Spec.eccLen v l) (b.data ++ b.ec) = true)
    (hdata : (Spec.blocksOf v l data).flatMap (·.data) = buf)
    (hstream : Spec.readStream v (buf.flatMap Spec.byteBits) = some ⟨ps, tc⟩) :
    Spec.read S = .ok { version := v, level := l, mask := mask, dataCodewords := buf, segs := ps,
                        tailConformant := tc } := by
  unfold Spec.read
  simp only [hn, epure, ebind_ok, hf, hvi, hfn, Bool.not_true, Bool.false_eq_true, if_false, hlen, ne_eq,
    not_true_eq_false, hrem, hcw]
  have hany : (List.replicate k false).any id = false := by
    rw [List.any_eq_false]; intro x hx; rw [(List.mem_replicate.mp hx).2]; simp
  have hfind : List.find? (fun (x : Spec.Block × Nat) =>
      !Spec.isCodeword (Spec.eccLen v l) (x.fst.data ++ x.fst.ec)) (Spec.blocksOf v l data).zipIdx = none := by
    rw [List.find?_eq_none]
    intro x hx
    have hm : x.1 ∈ Spec.blocksOf v l data := by
      obtain ⟨b, i⟩ := x
      exact (List.mem_zipIdx hx).2.2 ▸ List.getElem_mem _
    simp [hblocks x.1 hm]
  simp only [hany, Bool.false_eq_true, if_false, hfind, hdata, hstream]

/-- the reader's byte-to-bits is `BitBuffer.put(b, 8)` -/
theorem byteBits_eq (b : Nat) : Spec.byteBits b = bitsBE b 8 := by
  rw [bitsBE_eq_map]
  exact List.map_congr_left fun i _ => by rw [show 8 - i - 1 = 7 - i by omega]

theorem versionOfSize_size (v : Nat) (h1 : 1 ≤ v) (h40 : v ≤ 40) : Spec.versionOfSize (Spec.size v) = some v := by
  unfold Spec.versionOfSize Spec.size
  have e : 4 * v + 17 - 17 = 4 * v := by omega
  rw [e, if_pos ⟨by omega, by omega, by omega⟩]
  congr 1
  omega

theorem functionOK_of_cells (S : Spec.Sym) (v : Nat)
    (h : ∀ r c b, r < S.n → c < S.n → Spec.fixedColour v r c = some b → S.get r c = b) :
    Spec.functionOK S v = true := by
  unfold Spec.functionOK
  rw [List.all_eq_true]
  intro r hr
  rw [List.all_eq_true]
  intro c hc
  cases hf : Spec.fixedColour v r c with
  | none => rfl
  | some b =>
    simp only [beq_iff_eq]
    exact h r c b (List.mem_range.mp hr) (List.mem_range.mp hc) hf

/-- the strict reader on a symbol that shows what `makeImpl` built from codewords as `create_data` returns them -/
theorem read_makeImpl {v : Nat} {l : Spec.Level} {mask : Nat} {data : List Nat} {ps : List Spec.PSeg}
    {M : Model.Mat} {S : Spec.Sym} (h1 : 1 ≤ v)
    (hM : Model.makeImpl v l.indicator false mask data = .ok M) (hS : GeoC.Shows S (Spec.size v) M)
    (hdata : Proofs.DataOK v l ps data) :
    Spec.read S = .ok { version := v, level := l, mask := mask,
                        dataCodewords := (Spec.blocksOf v l data).flatMap (·.data), segs := ps,
                        tailConformant := true } := by
  -- `makeImpl_of_ok` describes `M` clause by clause (`Built`: blank, information cells, placed data); each step of the
  -- reader (`read_eq`) is discharged from one of them
  obtain ⟨h40, hk⟩ := (makeImpl_ok_iff ..).1 ⟨M, hM⟩
  have hB := makeImpl_of_ok h1 l.indicator_lt hM
  obtain ⟨hSn, hSg⟩ := hS
  have hcell : ∀ r c b, r < Spec.size v → c < Spec.size v → M.get r c = some b → S.get r c = b := by
    intro r c b hr hc h
    rw [hSg r c hr hc, h]; rfl
  obtain ⟨hfmt, hver⟩ := GeoB.reader_of_infoCell S v l.indicator mask l h1 h40 l.indicator_lt hk
    l.ofIndicator_indicator hSn (by
      intro r c b hb
      obtain ⟨hr, hc⟩ := GeoB.infoCell_inBounds v l.indicator mask h1 false r c b hb
      exact hcell r c b hr hc (hB.info r c b hr hc hb))
  have hfun : Spec.functionOK S v = true := by
    apply functionOK_of_cells
    rw [hSn]
    exact fun r c b hr hc hb => hcell r c b hr hc (hB.fixed h1 hr hc hb)
  obtain ⟨hrl, hrb, hrd⟩ := hB.codewords S ⟨hSn, hSg⟩ hdata.length hdata.bytes
  refine read_eq S v l mask data _ ps true _ ?_ hfmt hver hfun hrl hrd hrb hdata.blocks rfl ?_
  · rw [hSn]; exact versionOfSize_size v h1 h40
  · rw [show Spec.byteBits = fun b => bitsBE b 8 from funext byteBits_eq]; exact hdata.stream

end QR.Sym
