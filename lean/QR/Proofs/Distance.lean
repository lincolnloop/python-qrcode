import QR.Proofs.RSDiv
import QR.Proofs.C02Tables
import Mathlib.Tactic.Ring
import Mathlib.Algebra.Field.Defs
import Mathlib.Algebra.Ring.Basic
/-
C02, last clause: the ISO Reed-Solomon code with `e` check symbols has minimum distance `e + 1` (BCH bound), hence
any `≤ ⌊e/2⌋` damaged codewords per block are correctable (unique decoding).  The bytes with xor / `Spec.gfmul` form a
`Field` (`GF256`; laws from `QR.Proofs.GF256`, `a⁻¹ = a^254`).  `Spec.peval (α^i) cw` is the `i`-th power sum over the support
of `cw` with nodes `α^position`, pairwise distinct since `α` has order 255; and in a commutative ring without zero divisors
`w ≤ e` distinct nodes whose first `e` power sums vanish carry zero coefficients (`vandermonde_elim`: the non-singularity
of the Vandermonde system, by eliminating one node and one equation at a time, `S'_i = S_{i+1} − x_1 S_i`).
-/
namespace QR.Proofs
open QR.Spec

@[ext] structure GF256 where
  val : Nat
  lt : val < 256

namespace GF256

instance : Zero GF256 := ⟨⟨0, by omega⟩⟩
instance : One GF256 := ⟨⟨1, by omega⟩⟩
instance : Add GF256 := ⟨fun a b => ⟨a.val ^^^ b.val, xor_lt_256 a.lt b.lt⟩⟩
/-- characteristic 2 -/
instance : Neg GF256 := ⟨fun a => a⟩
instance : Mul GF256 := ⟨fun a b => ⟨gfmul a.val b.val, gfmul_lt _ a.lt⟩⟩

/-- `a⁻¹ = a^254` (so `0⁻¹ = 0`) -/
instance : Inv GF256 := ⟨fun a => ⟨gfpow a.val 254, gfpow_lt _ _⟩⟩

@[simp] theorem val_zero : (0 : GF256).val = 0 := rfl
@[simp] theorem val_one : (1 : GF256).val = 1 := rfl
@[simp] theorem val_add (a b : GF256) : (a + b).val = a.val ^^^ b.val := rfl
@[simp] theorem val_neg (a : GF256) : (-a).val = a.val := rfl
@[simp] theorem val_mul (a b : GF256) : (a * b).val = gfmul a.val b.val := rfl

instance : CommRing GF256 where
  add_assoc a b c := by ext; simp [Nat.xor_assoc]
  zero_add a := by ext; simp
  add_zero a := by ext; simp
  add_comm a b := by ext; simp [Nat.xor_comm]
  neg_add_cancel a := by ext; simp
  mul_assoc a b c := by ext; simp [gfmul_assoc a.lt b.lt c.lt]
  one_mul a := by ext; simp [gfmul_one_left a.lt]
  mul_one a := by ext; simp
  left_distrib a b c := by ext; simp [gfmul_xor_right]
  right_distrib a b c := by ext; simp [gfmul_xor_left a.lt b.lt c.lt]
  zero_mul a := by ext; simp
  mul_zero a := by ext; simp
  mul_comm a b := by ext; simp [gfmul_comm a.lt b.lt]
  nsmul := nsmulRec
  zsmul := zsmulRec

instance : Nontrivial GF256 := ⟨⟨0, 1, by intro h; have := congrArg GF256.val h; simp at this⟩⟩

theorem gfpow_gfpow_alpha (k n : Nat) : gfpow (gfpow alpha k) n = gfpow alpha (k * n) := by
  induction n with
  | zero => rfl
  | succ n ih => rw [gfpow, ih, gfpow_alpha_add, Nat.mul_succ]

/-- `a · a^254 = a^255 = 1` since `a = α^k` and `α^255 = 1` -/
theorem mul_inv_cancel' (a : GF256) (h : a ≠ 0) : a * a⁻¹ = 1 := by
  ext
  show gfmul a.val (gfpow a.val 254) = 1
  rcases byte_cases a.lt with h0 | ⟨k, hk⟩
  · exact absurd (GF256.ext h0) h
  · rw [hk, gfpow_gfpow_alpha, gfpow_alpha_add, ← gfpow_alpha_mod, show (k + k * 254) % 255 = 0 by omega]
    rfl

instance : NoZeroDivisors GF256 where
  eq_zero_or_eq_zero_of_mul_eq_zero := by
    intro a b h
    by_contra hn
    have ha : 1 ≤ a.val := Nat.pos_of_ne_zero fun e => hn (Or.inl (GF256.ext e))
    have hb : 1 ≤ b.val := Nat.pos_of_ne_zero fun e => hn (Or.inr (GF256.ext e))
    exact gfmul_ne_zero ha a.lt hb b.lt (congrArg GF256.val h)

instance : IsDomain GF256 := NoZeroDivisors.to_isDomain _

instance : Field GF256 where
  inv := Inv.inv
  mul_inv_cancel := mul_inv_cancel'
  inv_zero := GF256.ext (gfmul_zero (gfpow 0 253))
  exists_pair_ne := exists_pair_ne GF256
  nnqsmul := _
  qsmul := _
  nnratCast_def := fun _ => rfl
  ratCast_def := fun _ => rfl
  nnqsmul_def := fun _ _ => rfl
  qsmul_def := fun _ _ => rfl

end GF256

namespace Dist

/-- a natural number as a field element (reduced mod 256; the identity on bytes) -/
def toF (a : Nat) : GF256 := ⟨a % 256, Nat.mod_lt _ (by omega)⟩

theorem toF_val {a : Nat} (h : a < 256) : (toF a).val = a := Nat.mod_eq_of_lt h

@[simp] theorem toF_zero : toF 0 = 0 := rfl
@[simp] theorem toF_one : toF 1 = 1 := rfl

theorem toF_xor (a b : Nat) : toF (a ^^^ b) = toF a + toF b := by
  ext
  exact Nat.xor_mod_two_pow (n := 8)

theorem toF_gfmul {a b : Nat} (ha : a < 256) (hb : b < 256) : toF (gfmul a b) = toF a * toF b := by
  ext
  simp [toF_val ha, toF_val hb, toF_val (gfmul_lt b ha)]

theorem toF_inj {a b : Nat} (ha : a < 256) (hb : b < 256) (h : toF a = toF b) : a = b := by
  have := congrArg GF256.val h
  rwa [toF_val ha, toF_val hb] at this

theorem toF_gfpow {a : Nat} (ha : a < 256) (n : Nat) : toF (gfpow a n) = toF a ^ n := by
  induction n with
  | zero => simp [gfpow]
  | succ n ih => rw [gfpow, toF_gfmul (gfpow_lt _ _) ha, ih, pow_succ]

theorem alpha_pow_inj {i j : Nat} (hi : i < 255) (hj : j < 255) (h : toF alpha ^ i = toF alpha ^ j) : i = j := by
  have ha : alpha < 256 := by decide
  rw [← toF_gfpow ha, ← toF_gfpow ha] at h
  exact gfpow_alpha_inj hi hj (toF_inj (gfpow_lt _ _) (gfpow_lt _ _) h)

section Elim
variable {R : Type} [CommRing R]

/-- the `i`-th power sum `Σ_j c_j x_j^i` of a list of (node, coefficient) pairs -/
def syn (i : Nat) (l : List (R × R)) : R := (l.map fun p => p.2 * p.1 ^ i).sum

@[simp] theorem syn_nil (i : Nat) : syn i ([] : List (R × R)) = 0 := rfl
theorem syn_cons (i : Nat) (p : R × R) (l : List (R × R)) : syn i (p :: l) = p.2 * p.1 ^ i + syn i l := by
  simp [syn]

theorem syn_of_coef_zero (i : Nat) (l : List (R × R)) (h : ∀ p ∈ l, p.2 = 0) : syn i l = 0 := by
  induction l with
  | nil => rfl
  | cons p t ih =>
    rw [syn_cons, h p (List.mem_cons_self ..), ih (fun q hq => h q (List.mem_cons_of_mem _ hq))]
    ring

theorem syn_elim (x : R) (i : Nat) (l : List (R × R)) :
    syn i (l.map fun q => (q.1, q.2 * (q.1 - x))) = syn (i + 1) l - x * syn i l := by
  induction l with
  | nil => simp
  | cons p t ih =>
    rw [List.map_cons, syn_cons, ih, syn_cons, syn_cons]
    ring

/-- **Vandermonde non-singularity** (elimination form): `w ≤ e` pairwise distinct nodes, all of the first `e` power
    sums vanish: then every coefficient vanishes -/
theorem vandermonde_elim [NoZeroDivisors R] {e : Nat} {l : List (R × R)} (hpw : (l.map Prod.fst).Pairwise (· ≠ ·))
    (hlen : l.length ≤ e) (hs : ∀ i, i < e → syn i l = 0) : ∀ p ∈ l, p.2 = 0 := by
  induction e generalizing l with
  | zero =>
    intro p hp
    rw [List.eq_nil_of_length_eq_zero (by omega : l.length = 0)] at hp
    cases hp
  | succ e' ih =>
    cases l with
    | nil => intro p hp; cases hp
    | cons p t =>
    simp only [List.map_cons, List.pairwise_cons] at hpw
    obtain ⟨hp1, hpt⟩ := hpw
    -- the system with node `p.1` eliminated: coefficients `c_j (x_j − p.1)`, power sums `S_{i+1} − p.1·S_i`, one equation less
    have ht' : ∀ q' ∈ t.map (fun q => (q.1, q.2 * (q.1 - p.1))), q'.2 = 0 := by
      apply ih
      · rw [List.map_map]
        exact hpt
      · simp only [List.length_map, List.length_cons] at hlen ⊢; omega
      · intro i hi
        have h1 := hs (i + 1) (by omega)
        have h0 := hs i (by omega)
        rw [syn_cons] at h1 h0
        rw [syn_elim, eq_neg_of_add_eq_zero_right h1, eq_neg_of_add_eq_zero_right h0]
        ring
    have ht : ∀ q ∈ t, q.2 = 0 := by
      intro q hq
      have := ht' (q.1, q.2 * (q.1 - p.1)) (List.mem_map.mpr ⟨q, hq, rfl⟩)
      rcases mul_eq_zero.mp this with h | h
      · exact h
      · exact absurd (sub_eq_zero.mp h).symm (hp1 q.1 (List.mem_map.mpr ⟨q, hq, rfl⟩))
    intro q hq
    rcases List.mem_cons.mp hq with rfl | hq
    · have h0 := hs 0 (by omega)
      rw [syn_cons, syn_of_coef_zero 0 t ht] at h0
      simpa using h0
    · exact ht q hq

end Elim

/-- the support of `cw` (highest-order coefficient first): `(α^(exponent of x), coefficient)` for each non-zero entry -/
def pairs : List Nat → List (GF256 × GF256)
  | [] => []
  | c :: t => if c = 0 then pairs t else (toF alpha ^ t.length, toF c) :: pairs t

theorem pairs_snd (cw : List Nat) : (pairs cw).map Prod.snd = (cw.filter (· ≠ 0)).map toF := by
  induction cw with
  | nil => rfl
  | cons c t ih =>
    by_cases hc : c = 0
    · rw [pairs, if_pos hc, ih, List.filter_cons_of_neg (by simpa using hc)]
    · rw [pairs, if_neg hc, List.map_cons, ih, List.filter_cons_of_pos (by simpa using hc), List.map_cons]

theorem pairs_fst_sublist (cw : List Nat) :
    ((pairs cw).map Prod.fst).Sublist ((List.range cw.length).reverse.map (toF alpha ^ ·)) := by
  induction cw with
  | nil => exact List.Sublist.slnil
  | cons c t ih =>
    rw [List.length_cons, List.range_succ, List.reverse_append, List.reverse_singleton, List.singleton_append,
      List.map_cons, pairs]
    split
    · exact ih.cons _
    · exact ih.cons_cons _

/-- `hlen`: 255 is the order of `α` -/
theorem pairs_pairwise (cw : List Nat) (hlen : cw.length ≤ 255) : ((pairs cw).map Prod.fst).Pairwise (· ≠ ·) := by
  refine List.Pairwise.sublist (pairs_fst_sublist cw) ?_
  rw [List.pairwise_map, List.pairwise_reverse]
  refine List.pairwise_lt_range.imp_of_mem ?_
  intro i j hi hj hij heq
  have hi := List.mem_range.mp hi
  have hj := List.mem_range.mp hj
  have := alpha_pow_inj (by omega) (by omega) heq
  omega

theorem toF_peval_cons {r : Nat} (hr : r < 256) {c : Nat} {t : List Nat} (hb : Bytes (c :: t)) :
    toF (peval r (c :: t)) = toF c * toF r ^ t.length + toF (peval r t) := by
  rw [peval_cons_eq hr hb.head hb.tail, toF_xor, toF_gfmul hb.head (gfpow_lt _ _), toF_gfpow hr]

theorem syn_pairs (i : Nat) (cw : List Nat) (hb : Bytes cw) :
    syn i (pairs cw) = toF (peval (gfpow alpha i) cw) := by
  induction cw with
  | nil => rfl
  | cons c t ih =>
    rw [toF_peval_cons (gfpow_lt _ _) hb, ← ih hb.tail, toF_gfpow (by decide : alpha < 256)]
    by_cases hc : c = 0
    · rw [pairs, if_pos hc, hc]
      simp
    · rw [pairs, if_neg hc, syn_cons, pow_right_comm]

end Dist
open Dist

/-- **minimum weight** of the ISO Reed-Solomon code with `e` check symbols: a non-zero word of length `≤ 255` all of
    whose syndromes `cw(α^0), …, cw(α^(e-1))` vanish has at least `e + 1` non-zero symbols -/
theorem codeword_weight (e : Nat) (cw : List Nat) (hlen : cw.length ≤ 255) (hb : ∀ c ∈ cw, c < 256)
    (hcw : Spec.isCodeword e cw = true) (hnz : ∃ c ∈ cw, c ≠ 0) :
    e + 1 ≤ (cw.filter (· ≠ 0)).length := by
  refine Nat.lt_of_not_le fun hle => ?_
  rw [← List.length_map (f := toF), ← pairs_snd, List.length_map] at hle
  rw [isCodeword_iff] at hcw
  have hz := vandermonde_elim (pairs_pairwise cw hlen) hle (by
    intro i hi
    rw [syn_pairs i cw hb, hcw i hi]
    rfl)
  -- a non-zero entry of `cw` is the coefficient of one of the pairs
  obtain ⟨c, hc, hc0⟩ := hnz
  have hmem : toF c ∈ (pairs cw).map Prod.snd := by
    rw [pairs_snd]
    exact List.mem_map_of_mem (List.mem_filter.mpr ⟨hc, by simpa using hc0⟩)
  obtain ⟨p, hp, hpc⟩ := List.mem_map.mp hmem
  exact hc0 (toF_inj (hb c hc) (by omega) (hpc ▸ hz p hp))

/-- Hamming distance: the number of positions where two words (of the same length) differ -/
def hdist (a b : List Nat) : Nat := ((a.zip b).filter fun p => p.1 ≠ p.2).length

@[simp] theorem hdist_nil_left (b : List Nat) : hdist [] b = 0 := by simp [hdist]
theorem hdist_nil_right (a : List Nat) : hdist a [] = 0 := by simp [hdist]
theorem hdist_cons (x y : Nat) (a b : List Nat) :
    hdist (x :: a) (y :: b) = (if x ≠ y then 1 else 0) + hdist a b := by
  by_cases h : x = y
  · simp [hdist, h]
  · simp [hdist, h, Nat.add_comm]

namespace Dist

theorem isCodeword_zipWith_xor (e : Nat) {p q : List Nat} (hp : Bytes p) (hq : Bytes q) (hl : p.length = q.length)
    (h1 : isCodeword e p = true) (h2 : isCodeword e q = true) :
    isCodeword e (List.zipWith (· ^^^ ·) p q) = true := by
  rw [isCodeword_iff] at h1 h2 ⊢
  intro i hi
  rw [peval_zipWith_xor (gfpow_lt _ _) hp hq hl, h1 i hi, h2 i hi]
  rfl

theorem xor_eq_zero_iff {x y : Nat} : x ^^^ y = 0 ↔ x = y := by
  constructor
  · intro h
    have : (x ^^^ y) ^^^ y = 0 ^^^ y := by rw [h]
    rwa [Nat.xor_assoc, Nat.xor_self, Nat.xor_zero, Nat.zero_xor] at this
  · intro h; rw [h, Nat.xor_self]

theorem weight_zipWith_xor (a b : List Nat) :
    ((List.zipWith (· ^^^ ·) a b).filter (· ≠ 0)).length = hdist a b := by
  rw [← List.map_uncurry_zip_eq_zipWith, List.filter_map, List.length_map, hdist]
  congr 2
  funext p
  simp [Function.uncurry, xor_eq_zero_iff]

theorem eq_of_zipWith_xor_zero {a b : List Nat} (hl : a.length = b.length)
    (h : ∀ c ∈ List.zipWith (· ^^^ ·) a b, c = 0) : a = b := by
  apply List.ext_getElem hl
  intro i h1 h2
  have hi : i < (List.zipWith (· ^^^ ·) a b).length := by rw [List.length_zipWith]; omega
  have := h _ (List.getElem_mem hi)
  rw [List.getElem_zipWith] at this
  exact xor_eq_zero_iff.mp this

theorem hdist_comm (a b : List Nat) : hdist a b = hdist b a := by
  rw [← weight_zipWith_xor, ← weight_zipWith_xor, List.zipWith_comm_of_comm Nat.xor_comm]

theorem ne_triangle (x z y : Nat) :
    (if x ≠ y then 1 else 0) ≤ (if x ≠ z then 1 else 0) + (if z ≠ y then 1 else 0) := by
  split <;> split <;> split <;> omega

theorem hdist_triangle (a r b : List Nat) (h1 : a.length = r.length) (h2 : r.length = b.length) :
    hdist a b ≤ hdist a r + hdist r b := by
  induction a generalizing r b with
  | nil => simp
  | cons x a ih =>
    cases r with
    | nil => simp at h1
    | cons z r =>
      cases b with
      | nil => simp at h2
      | cons y b =>
        simp only [List.length_cons, Nat.add_right_cancel_iff] at h1 h2
        have := ih r b h1 h2
        have := ne_triangle x z y
        rw [hdist_cons, hdist_cons, hdist_cons]
        omega

end Dist

/-- **minimum distance** of the ISO Reed-Solomon code with `e` check symbols: two distinct codewords of the same
    length `≤ 255` differ in at least `e + 1` positions -/
theorem codeword_distance (e : Nat) (c1 c2 : List Nat) (hl : c1.length = c2.length) (hlen : c1.length ≤ 255)
    (hb1 : ∀ c ∈ c1, c < 256) (hb2 : ∀ c ∈ c2, c < 256)
    (h1 : Spec.isCodeword e c1 = true) (h2 : Spec.isCodeword e c2 = true) (hne : c1 ≠ c2) :
    e + 1 ≤ hdist c1 c2 := by
  rw [← weight_zipWith_xor]
  apply codeword_weight e
  · simp only [List.length_zipWith]; omega
  · exact Bytes.zipWith_xor hb1 hb2
  · exact isCodeword_zipWith_xor e hb1 hb2 hl h1 h2
  · refine Classical.byContradiction fun hall => hne (eq_of_zipWith_xor_zero hl fun c hc => ?_)
    exact Classical.byContradiction fun hc0 => hall ⟨c, hc, hc0⟩

/-- **unique decoding**: a received word `r` whose distances to two codewords add up to at most `e` determines the
    codeword; in particular it is within `⌊e/2⌋` symbol errors of at most one codeword -/
theorem unique_decoding (e : Nat) (r c1 c2 : List Nat) (hr1 : r.length = c1.length) (hr2 : r.length = c2.length)
    (hlen : r.length ≤ 255) (hb1 : ∀ c ∈ c1, c < 256) (hb2 : ∀ c ∈ c2, c < 256)
    (h1 : Spec.isCodeword e c1 = true) (h2 : Spec.isCodeword e c2 = true)
    (hd : hdist r c1 + hdist r c2 ≤ e) : c1 = c2 := by
  apply Classical.byContradiction
  intro hne
  have hd := codeword_distance e c1 c2 (by omega) (by omega) hb1 hb2 h1 h2 hne
  have ht := hdist_triangle c1 r c2 hr1.symm hr2
  rw [hdist_comm c1 r] at ht
  omega

/-- **C02 (correctability)**: in every block of every (version, level) symbol, a received block `r` is within
    `⌊e/2⌋` symbol errors (`e` = error-correction codewords per block of ISO Table 9) of at most one codeword -/
theorem C02_unique_decoding (v : Nat) (hv : v < 40) (l : Spec.Level) (b : Nat × Nat) (hbl : b ∈ Spec.isoBlocks (v + 1) l)
    (r c1 c2 : List Nat) (hr : r.length = b.1) (hc1 : c1.length = b.1) (hc2 : c2.length = b.1)
    (hb1 : ∀ c ∈ c1, c < 256) (hb2 : ∀ c ∈ c2, c < 256)
    (h1 : Spec.isCodeword (Spec.eccLen (v + 1) l) c1 = true) (h2 : Spec.isCodeword (Spec.eccLen (v + 1) l) c2 = true)
    (hd1 : hdist r c1 ≤ Spec.eccLen (v + 1) l / 2) (hd2 : hdist r c2 ≤ Spec.eccLen (v + 1) l / 2) : c1 = c2 := by
  have := ((Props.isoBlocks_facts v hv l).2.2.2 b hbl).2.2
  exact unique_decoding _ r c1 c2 (by omega) (by omega) (by omega) hb1 hb2 h1 h2 (by omega)

end QR.Proofs
