import QR.Proofs.StreamSegs
import QR.Proofs.C07Tables
import QR.Proofs.Lists
/-
C06 main theorems: the bit buffer built by `create_data` (before `create_bytes`) is a conformant ISO/IEC 18004 data
bit stream whose segments are exactly the input segments; DataOverflowError is raised exactly when the closed-form
stream length exceeds the ISO data capacity.  All are read off one description of `dataBits` (`dataBits_char`), which
rests on: a stream that fits has every character count below 2 ^ (count width); terminator, zero fill and pad codewords
as `create_data` appends them are what `Spec.tailOK` accepts.
-/
namespace QR
open Model

/-- the largest data capacity (bits) within a version class: 9-L, 26-L, 40-L -/
def classCap : Nat → Nat
  | 0 => 1856
  | 1 => 10960
  | _ => 23648

/-- by monotonicity only the last version of each class has to be looked up -/
theorem capacity_le_classCap {v : Nat} (h1 : 1 ≤ v) (h40 : v ≤ 40) (l : Spec.Level) :
    Spec.capacityBits v l ≤ classCap (Spec.versionClass v) := by
  have h9 : Spec.capacityBits 9 l ≤ 1856 := by cases l <;> decide
  have h26 : Spec.capacityBits 26 l ≤ 10960 := by cases l <;> decide
  have h40' : Spec.capacityBits 40 l ≤ 23648 := by cases l <;> decide
  unfold Spec.versionClass
  split
  · exact Nat.le_trans (Props.capacityBits_mono l h1 ‹v ≤ 9› (by omega)) h9
  · split
    · exact Nat.le_trans (Props.capacityBits_mono l h1 ‹v ≤ 26› (by omega)) h26
    · exact Nat.le_trans (Props.capacityBits_mono l h1 h40 (by omega)) h40'

theorem seg_le_streamBits (v : Nat) {ps : List Spec.PSeg} {p : Spec.PSeg} (hp : p ∈ ps) :
    4 + Spec.countWidth v p.mode + Spec.bodyBits p.mode p.data.length ≤ Spec.streamBits v (segCounts ps) :=
  le_sum_of_mem (List.mem_map.mpr ⟨(p.mode, p.data.length), List.mem_map.mpr ⟨p, hp, rfl⟩, rfl⟩)

theorem count_lt_of_le_classCap (v : Nat) (m : Spec.Mode) (n : Nat)
    (h : 4 + Spec.countWidth v m + Spec.bodyBits m n ≤ classCap (Spec.versionClass v)) :
    n < 2 ^ Spec.countWidth v m := by
  unfold Spec.countWidth Spec.bodyBits at *
  generalize Spec.versionClass v = c at *
  -- class by mode: `2 ^ width` characters (at 10 bits per 3, 11 per 2, 8 per 1) exceed the capacity of the class
  rcases c with _ | _ | c <;> cases m <;> simp only [classCap] at * <;> omega

theorem count_fits_of_fits {v : Nat} (h1 : 1 ≤ v) (h40 : v ≤ 40) (l : Spec.Level) {ps : List Spec.PSeg}
    (hfit : Spec.streamBits v (segCounts ps) ≤ Spec.capacityBits v l) :
    ∀ p ∈ ps, p.data.length < 2 ^ Spec.countWidth v p.mode := fun p hp =>
  count_lt_of_le_classCap v p.mode p.data.length
    (Nat.le_trans (seg_le_streamBits v hp) (Nat.le_trans hfit (capacity_le_classCap h1 h40 l)))

theorem padBytes_length (n : Nat) : (padBytes n).length = 8 * n := by
  simp only [padBytes, List.length_flatMap, bitsBE_length, List.map_const', List.sum_replicate_nat, List.length_range,
    Nat.mul_comm]

theorem padsOKAux_flatMap (i n : Nat) :
    Spec.padsOKAux n i ((List.range' i n).flatMap fun i => bitsBE (if i % 2 = 0 then Gen.PAD0 else Gen.PAD1) 8)
      = true := by
  induction n generalizing i with
  | zero => rfl
  | succ n ih =>
    rw [List.range'_succ, List.flatMap_cons]
    simp only [Spec.padsOKAux, take_bitsBE_append, drop_bitsBE_append, bitsBE_length, ih, Bool.and_true,
      BEq.rfl, Bool.true_and]
    by_cases h : i % 2 = 0
    · have : Spec.bitsVal (bitsBE Gen.PAD0 8) = 0xEC := by decide
      simp [h, this]
    · have : Spec.bitsVal (bitsBE Gen.PAD1 8) = 0x11 := by decide
      simp [h, this]

theorem padsOK_padBytes (n : Nat) : Spec.padsOK (padBytes n) = true := by
  have : (8 * n + 7) / 8 = n := by omega
  rw [Spec.padsOK, padBytes_length, this, padBytes, List.range_eq_range']
  exact padsOKAux_flatMap 0 n

/-- the terminator of `create_data`: `range(min(bit_limit - len(buffer), 4))` zero bits -/
def termLen (cap used : Nat) : Nat := min (cap - used) 4

/-- then `8 - delimit` zero bits when `delimit = len(buffer) % 8` is not 0 -/
def fillLen (cap used : Nat) : Nat :=
  if (used + termLen cap used) % 8 ≠ 0 then 8 - (used + termLen cap used) % 8 else 0

/-- everything `create_data` appends after `used` segment bits when the capacity is `cap` bits -/
def tailBits (cap used : Nat) : List Bool :=
  List.replicate (termLen cap used) false ++ List.replicate (fillLen cap used) false ++
    padBytes ((cap - (used + termLen cap used + fillLen cap used)) / 8)

/-- the fill in the form `Spec.tailOK` computes it -/
theorem fillLen_eq (cap used : Nat) : fillLen cap used = (8 - (used + termLen cap used) % 8) % 8 := by
  unfold fillLen
  split <;> omega

theorem tail_aligned {cap used : Nat} (h8 : cap % 8 = 0) (hle : used ≤ cap) :
    (used + termLen cap used + fillLen cap used) % 8 = 0 ∧ used + termLen cap used + fillLen cap used ≤ cap := by
  have ht : used + termLen cap used ≤ cap := by unfold termLen; omega
  rw [fillLen_eq]
  generalize used + termLen cap used = n at ht ⊢
  omega

theorem tailBits_length {cap used : Nat} (h8 : cap % 8 = 0) (hle : used ≤ cap) :
    (tailBits cap used).length = cap - used := by
  obtain ⟨ha, hb⟩ := tail_aligned h8 hle
  simp only [tailBits, List.length_append, List.length_replicate, padBytes_length]
  omega

theorem tailBits_stops {cap used : Nat} (h8 : cap % 8 = 0) (hle : used ≤ cap) : StopsParse (tailBits cap used) := by
  by_cases h : cap - used < 4
  · left; rw [tailBits_length h8 hle]; exact h
  · right
    have ht : termLen cap used = 4 := by simp only [termLen]; omega
    simp only [tailBits, ht, List.append_assoc]
    rfl

theorem tailOK_tailBits {cap used : Nat} (h8 : cap % 8 = 0) (hle : used ≤ cap) :
    Spec.tailOK used (tailBits cap used) = true := by
  have hlen := tailBits_length h8 hle
  have ht : min 4 (tailBits cap used).length = termLen cap used := by rw [hlen, termLen, Nat.min_comm]
  have hfit : termLen cap used + fillLen cap used ≤ (tailBits cap used).length := by
    have := (tail_aligned h8 hle).2
    omega
  have hl : (List.replicate (termLen cap used) false ++ List.replicate (fillLen cap used) false).length =
      termLen cap used + fillLen cap used := by
    rw [List.length_append, List.length_replicate, List.length_replicate]
  simp only [Spec.tailOK, ht, ← fillLen_eq, hfit, decide_true, Bool.and_true]
  rw [tailBits, List.take_left' hl, List.drop_left' hl, padsOK_padBytes]
  simp

/-- `bit_limit` (sum of the data codewords of the RS blocks, times 8) is the ISO data capacity -/
theorem bitLimit_table (v : Nat) (hv : v < 40) (l : Spec.Level) :
    ((Spec.isoBlocks (v + 1) l).map fun b => b.2 * 8).sum = Spec.capacityBits (v + 1) l := by
  rw [Spec.capacityBits, ← (Props.isoBlocks_facts v hv l).1]
  exact sum_map_mul 8 fun b => Nat.mul_comm _ _

/-- `create_data` up to `create_bytes`, with the RS block table and the bit limit resolved to the ISO capacity -/
theorem dataBits_eq {v : Nat} (h1 : 1 ≤ v) (h40 : v ≤ 40) (l : Spec.Level) (segs : List Seg) :
    dataBits v l.indicator segs =
      (segsBits (fun m => lengthInBits m v) segs >>= fun buffer =>
        if buffer.length > Spec.capacityBits v l then .error .dataOverflow
        else .ok (buffer ++ tailBits (Spec.capacityBits v l) buffer.length)) := by
  obtain ⟨u, rfl⟩ : ∃ u, v = u + 1 := ⟨v - 1, by omega⟩
  have hb := Props.C02_table u (by omega) l (Props.mem_allLevels l)
  have hl := bitLimit_table u (by omega) l
  unfold dataBits
  cases hs : segsBits (fun m => lengthInBits m (u + 1)) segs with
  | error e => rfl
  | ok buffer =>
    simp only [R.bind_ok, hb, hl]
    split
    · rfl
    · have ht : min (Spec.capacityBits (u + 1) l - buffer.length) 4 =
          termLen (Spec.capacityBits (u + 1) l) buffer.length := rfl
      simp only [R.pure_eq, List.length_append, List.length_replicate, ht, Except.ok.injEq]
      unfold tailBits fillLen
      split
      · simp only [List.append_assoc, List.length_append, List.length_replicate, Nat.add_assoc]
      · simp only [List.replicate_zero, List.append_nil, Nat.add_zero, List.append_assoc, List.length_append,
          List.length_replicate]

theorem capacityBits_mod8 (v : Nat) (l : Spec.Level) : Spec.capacityBits v l % 8 = 0 := by
  simp only [Spec.capacityBits, Nat.mul_mod_right]

theorem length_le_streamBits (v : Nat) (ps : List Spec.PSeg) : ps.length ≤ Spec.streamBits v (segCounts ps) := by
  induction ps with
  | nil => exact Nat.zero_le _
  | cons p ps ih => rw [streamBits_cons, List.length_cons]; omega

theorem dataBits_char {v : Nat} (h1 : 1 ≤ v) (h40 : v ≤ 40) (l : Spec.Level) {segs : List Seg}
    (hvalid : ∀ s ∈ segs, s.Valid) {ps : List Spec.PSeg} (hps : toPSegs segs = some ps) :
    (∃ all, dataBits v l.indicator segs = .ok all ∧
      Spec.streamBits v (segCounts ps) ≤ Spec.capacityBits v l ∧ all.length = Spec.capacityBits v l ∧
      Spec.readStream v all = some { segs := ps, tailConformant := true }) ∨
    (dataBits v l.indicator segs = .error .dataOverflow ∧
      Spec.streamBits v (segCounts ps) > Spec.capacityBits v l) := by
  obtain ⟨bits, ps', hbits, hps', hpl, hlen, hparse⟩ :=
    segsBits_spec (w := fun m => lengthInBits m v) (lengthInBits_eq h1 h40) segs hvalid
  cases hps.symm.trans hps'
  change bits.length = Spec.streamBits v (segCounts ps) at hlen
  rw [dataBits_eq h1 h40, hbits, R.bind_ok, ← hlen]
  by_cases hov : bits.length > Spec.capacityBits v l
  · exact Or.inr ⟨if_pos hov, hov⟩
  · have hle : bits.length ≤ Spec.capacityBits v l := by omega
    have h8 := capacityBits_mod8 v l
    have htl := tailBits_length h8 hle
    refine Or.inl ⟨_, if_neg hov, hle, by rw [List.length_append, htl]; omega, ?_⟩
    have hfuel : segs.length < (bits ++ tailBits (Spec.capacityBits v l) bits.length).length + 1 := by
      have := length_le_streamBits v ps
      rw [List.length_append]; omega
    rw [Spec.readStream, hparse v rfl (count_fits_of_fits h1 h40 l (hlen ▸ hle)) _ (tailBits_stops h8 hle) _ hfuel]
    simp only [List.length_append, Nat.add_sub_cancel, tailOK_tailBits h8 hle]

/-- main theorem: reading the data bit stream with the ISO grammar returns exactly the input segments, and the
    terminator / padding are conformant -/
theorem C06_stream {v : Nat} (h1 : 1 ≤ v) (h40 : v ≤ 40) (l : Spec.Level) {segs : List Seg}
    (hvalid : ∀ s ∈ segs, s.Valid) {ps : List Spec.PSeg} (hps : toPSegs segs = some ps) {all : List Bool}
    (h : dataBits v l.indicator segs = .ok all) :
    Spec.readStream v all = some { segs := ps, tailConformant := true } :=
  (R.ok_of_char (dataBits_char h1 h40 l hvalid hps) h).2.2

/-- field-wise form of `C06_stream` -/
theorem C06_stream_fields {v : Nat} (h1 : 1 ≤ v) (h40 : v ≤ 40) (l : Spec.Level) {segs : List Seg}
    (hvalid : ∀ s ∈ segs, s.Valid) {ps : List Spec.PSeg} (hps : toPSegs segs = some ps) {all : List Bool}
    (h : dataBits v l.indicator segs = .ok all) :
    ∃ r, Spec.readStream v all = some r ∧ r.segs = ps ∧ r.tailConformant = true :=
  ⟨_, C06_stream h1 h40 l hvalid hps h, rfl, rfl⟩

/-- converse: `create_data` raises DataOverflowError exactly when the closed-form ISO stream length exceeds the
    ISO data capacity -/
theorem C06_overflow_iff {v : Nat} (h1 : 1 ≤ v) (h40 : v ≤ 40) (l : Spec.Level) {segs : List Seg}
    (hvalid : ∀ s ∈ segs, s.Valid) {ps : List Spec.PSeg} (hps : toPSegs segs = some ps) :
    dataBits v l.indicator segs = .error .dataOverflow ↔
      Spec.streamBits v (segCounts ps) > Spec.capacityBits v l :=
  R.error_iff_of_char (dataBits_char h1 h40 l hvalid hps) fun _ h => Nat.not_lt.mpr h.1

/-- and otherwise it succeeds (no other exception is possible on valid segments) -/
theorem C06_ok_of_fits {v : Nat} (h1 : 1 ≤ v) (h40 : v ≤ 40) (l : Spec.Level) {segs : List Seg}
    (hvalid : ∀ s ∈ segs, s.Valid) {ps : List Spec.PSeg} (hps : toPSegs segs = some ps)
    (hfit : Spec.streamBits v (segCounts ps) ≤ Spec.capacityBits v l) :
    ∃ all, dataBits v l.indicator segs = .ok all :=
  ((dataBits_char h1 h40 l hvalid hps).resolve_right fun h => Nat.not_lt.mpr hfit h.2).imp fun _ h => h.1

/-- `segsBits_spec` at the width function of `create_data` -/
theorem segs_roundtrip {v : Nat} (h1 : 1 ≤ v) (h40 : v ≤ 40) (segs : List Seg) (hvalid : ∀ s ∈ segs, s.Valid) :
    ∃ bits ps, segsBits (fun m => lengthInBits m v) segs = .ok bits ∧ toPSegs segs = some ps ∧
      bits.length = Spec.streamBits v (segCounts ps) ∧
      ((∀ p ∈ ps, p.data.length < 2 ^ Spec.countWidth v p.mode) →
        ∀ rest, (rest.length < 4 ∨ rest.take 4 = [false, false, false, false]) →
        ∀ fuel, segs.length < fuel → Spec.parseSegs v fuel (bits ++ rest) = some (ps, rest)) := by
  obtain ⟨bits, ps, hbits, hps, _, hlen, hparse⟩ :=
    segsBits_spec (w := fun m => lengthInBits m v) (lengthInBits_eq h1 h40) segs hvalid
  exact ⟨bits, ps, hbits, hps, hlen, hparse v rfl⟩

/-- C06 on the data codewords themselves: the bytes handed to `create_bytes` (`packBytes all`), written out MSB first,
    form a conformant ISO data bit stream carrying exactly the input segments; there are exactly the ISO number of data
    codewords, each below 256 -/
theorem C06_codewords {v : Nat} (h1 : 1 ≤ v) (h40 : v ≤ 40) (l : Spec.Level) {segs : List Seg}
    (hvalid : ∀ s ∈ segs, s.Valid) {ps : List Spec.PSeg} (hps : toPSegs segs = some ps) {all : List Bool}
    (h : dataBits v l.indicator segs = .ok all) :
    Spec.readStream v (writeBytes (packBytes all)) = some { segs := ps, tailConformant := true } ∧
    (packBytes all).length = Spec.dataCodewords v l ∧ ∀ b ∈ packBytes all, b < 256 := by
  obtain ⟨_, hlen, hread⟩ := R.ok_of_char (dataBits_char h1 h40 l hvalid hps) h
  have hw := writeBytes_packBytes (bs := all) (by rw [hlen]; exact capacityBits_mod8 v l)
  refine ⟨hw.symm ▸ hread, ?_, packBytes_lt all⟩
  rw [packBytes_length, hlen, Spec.capacityBits]
  omega

end QR
