import QR.Model.Data
import QR.Spec.Stream
import QR.Proofs.Except
/-
C06 - data bit stream (table part: the character-count widths of `mode_sizes_for_version` / `length_in_bits` are ISO Table 3;
mode indicators, pad codewords).
-/
namespace QR

theorem checkVersion_ok {v : Int} {u : Unit} : Model.checkVersion v = .ok u ↔ 1 ≤ v ∧ v ≤ 40 := by
  rw [Model.checkVersion, R.guard_ok]; omega

end QR

namespace QR.Proofs

theorem sizeClass_eq_versionClass (v : Nat) : Model.sizeClass v = Spec.versionClass v := by
  unfold Model.sizeClass Spec.versionClass
  split <;> split <;> (try split) <;> (try split) <;> omega

theorem versionClass_le_two (v : Nat) : Spec.versionClass v ≤ 2 := by
  unfold Spec.versionClass; split <;> (try split) <;> omega

/-- the three `MODE_SIZE_*` dicts are `Spec.countWidth` of their class (for every version number) -/
theorem modeSizes_countWidth (v : Nat) (m : Spec.Mode) :
    dictGet (Model.modeSizes v) m.indicator = .ok (Spec.countWidth v m) := by
  have h0 := sizeClass_eq_versionClass v
  have h2 := versionClass_le_two v
  unfold Model.modeSizes Spec.countWidth
  rw [h0]
  generalize Spec.versionClass v = c at *
  match c, h2 with
  | 0, _ => cases m <;> rfl
  | 1, _ => cases m <;> rfl
  | 2, _ => cases m <;> rfl

theorem checkVersion_ok_of_le (v : Nat) (h1 : 1 ≤ v) (h40 : v ≤ 40) : Model.checkVersion (v : Int) = .ok () :=
  QR.checkVersion_ok.2 ⟨by omega, by omega⟩

end QR.Proofs

namespace QR
open Model

/-- `length_in_bits(mode, v)` is the ISO character-count width, for every version 1..40: the mode is one of the four known
    ones, the version passes `check_version`, and the dict is that of the class -/
theorem lengthInBits_eq {v : Nat} (h1 : 1 ≤ v) (h40 : v ≤ 40) (m : Spec.Mode) :
    lengthInBits m.indicator v = .ok (Spec.countWidth v m) := by
  unfold lengthInBits
  rw [if_neg (by cases m <;> decide), Proofs.checkVersion_ok_of_le v h1 h40, R.bind_ok]
  exact Proofs.modeSizes_countWidth v m

end QR

namespace QR.Props

def allModes : List Spec.Mode := [.numeric, .alnum, .byte]

/-- `length_in_bits(mode, v)` is ISO Table 3 for all 40 versions and the three modes (class boundaries 9|10, 26|27) -/
theorem C06_widths : ∀ v, v < 40 → ∀ m ∈ allModes,
    Model.lengthInBits m.indicator (v + 1) = .ok (Spec.countWidth (v + 1) m) :=
  fun v hv m _ => lengthInBits_eq (by omega) (by omega) m

/-- mode indicators, pad codewords, numeric group widths and the alphanumeric table are the ISO ones -/
theorem C06_constants :
    Gen.MODE_NUMBER = Spec.Mode.numeric.indicator ∧ Gen.MODE_ALPHA_NUM = Spec.Mode.alnum.indicator ∧
    Gen.MODE_8BIT_BYTE = Spec.Mode.byte.indicator ∧ Gen.PAD0 = 0xEC ∧ Gen.PAD1 = 0x11 ∧
    Gen.NUMBER_LENGTH = [(1, 4), (2, 7), (3, 10)] ∧ Gen.ALPHA_NUM = Spec.alnumTable :=
  ⟨rfl, rfl, rfl, rfl, rfl, rfl, rfl⟩

end QR.Props
