import QR.Model.Svg
import QR.Spec.Svg
import QR.Proofs.DarkCells
/-
C13: every SVG factory emits exactly one shape per dark module, in row-major order, none for light modules (`shapes_eq`:
the shape list is `Spec.darkCells` mapped by `shapeAt`); each shape is centred on its module's cell and is not larger than
the cell (`blobOf_drawShape`: centre and extent of any drawer's shape in closed form, over a common denominator).
-/
namespace QR.Proofs.Svg
open QR.Model

/-- centre and full extent of an emitted shape, over the denominator `2 * p.1` (`p.1 = 2 * den` is the denominator of
    the shape's own coordinates, doubled once more so that centres of rectangles are integral).
    For the path circle the two arcs span the chord `x0..x1` at height `yh`; SVG scales a too-small radius up to half
    the chord, so the extent is the chord in both directions. -/
def blobOf (p : Nat × SvgShape) : Spec.Blob :=
  match p.2 with
  | .rect x y w h => { den := 2 * p.1, cx := 2 * x + w, cy := 2 * y + h, w := 2 * w, h := 2 * h }
  | .circle cx cy r => { den := 2 * p.1, cx := 2 * cx, cy := 2 * cy, w := 4 * r, h := 4 * r }
  | .pathSquare x0 y0 x1 y1 => { den := 2 * p.1, cx := x0 + x1, cy := y0 + y1, w := 2 * (x1 - x0), h := 2 * (y1 - y0) }
  | .pathCircle x0 yh x1 _ => { den := 2 * p.1, cx := x0 + x1, cy := 2 * yh, w := 2 * (x1 - x0), h := 2 * (x1 - x0) }

/-- `drawrect_context`: `self.eye_drawer if self.is_eye(row, col) else self.module_drawer` -/
def drawerAt (md ed : SvgDrawer) (n r c : Nat) : SvgDrawer := if isEye n r c then ed else md

/-- the entry of `svgDoc.shapes` for the dark module `rc`: the denominator of the drawer's coordinates and its shape at
    `pixel_box(r, c)[0]` -/
def shapeAt (f : SvgFactory) (md ed : SvgDrawer) (n border box : Nat) (rc : Nat × Nat) : Nat × SvgShape :=
  (2 * (drawerAt md ed n rc.1 rc.2).den,
   drawShape f.isPath (drawerAt md ed n rc.1 rc.2) box ((rc.2 + border) * box) ((rc.1 + border) * box))

theorem shapes_eq (f : SvgFactory) (md ed : SvgDrawer) (M : Mods) (n border box : Nat) :
    (svgDoc f md ed M n border box).shapes = (Spec.darkCells M n).map (shapeAt f md ed n border box) := by
  rw [DarkCells.map_darkCells]; rfl

/-- centre `(X + box/2, Y + box/2)`, extent `ratio * box`, for all four shapes; `h` is needed for the Nat subtraction `den - num` -/
theorem blobOf_drawShape (isPath : Bool) (d : SvgDrawer) (box X Y : Nat) (h : d.num ≤ d.den) :
    blobOf (2 * d.den, drawShape isPath d box X Y) =
      { den := 4 * d.den, cx := 4 * (d.den * X) + 2 * (d.den * box), cy := 4 * (d.den * Y) + 2 * (d.den * box),
        w := 4 * (d.num * box), h := 4 * (d.num * box) } := by
  have hb : d.num * box ≤ d.den * box := Nat.mul_le_mul_right _ h
  have e1 : (d.den - d.num) * box = d.den * box - d.num * box := Nat.sub_mul ..
  have e2 : 2 * d.num * box = 2 * (d.num * box) := Nat.mul_assoc ..
  have e3 : X * (2 * d.den) = 2 * (d.den * X) := by rw [Nat.mul_comm, Nat.mul_assoc]
  have e4 : Y * (2 * d.den) = 2 * (d.den * Y) := by rw [Nat.mul_comm, Nat.mul_assoc]
  cases isPath <;> cases hk : d.kind <;>
    simp only [blobOf, drawShape, hk, e1, e2, e3, e4, Spec.Blob.mk.injEq] <;>
    generalize d.num * box = a at * <;> generalize d.den * box = b at * <;>
    generalize d.den * X = x at * <;> generalize d.den * Y = y at * <;>
    refine ⟨?_, ?_, ?_, ?_, ?_⟩ <;> first | trivial | omega

theorem drawShape_centred_fits (isPath : Bool) (d : SvgDrawer) (border box r c : Nat) (h : d.num ≤ d.den) :
    (blobOf (2 * d.den, drawShape isPath d box ((c + border) * box) ((r + border) * box))).centredOn border box r c = true ∧
    (blobOf (2 * d.den, drawShape isPath d box ((c + border) * box) ((r + border) * box))).fitsCell box = true := by
  rw [blobOf_drawShape _ _ _ _ _ h]
  have hb : d.num * box ≤ d.den * box := Nat.mul_le_mul_right _ h
  simp only [Spec.Blob.centredOn, Spec.Blob.fitsCell, Bool.and_eq_true, beq_iff_eq, decide_eq_true_eq, and_self]
  have e1 : ∀ k, 4 * d.den * (2 * (k + border) * box + box) = 8 * (d.den * ((k + border) * box)) + 4 * (d.den * box) := by
    intro k
    rw [Nat.mul_add, Nat.mul_assoc 2, Nat.mul_assoc 4, Nat.mul_assoc 4, Nat.mul_left_comm d.den 2]
    omega
  rw [e1, e1, Nat.mul_assoc 4]
  refine ⟨⟨by omega, by omega⟩, by omega⟩

theorem drawerAt_num_le_den (md ed : SvgDrawer) (n r c : Nat) (hm : md.num ≤ md.den) (he : ed.num ≤ ed.den) :
    (drawerAt md ed n r c).num ≤ (drawerAt md ed n r c).den := by
  unfold drawerAt; split <;> assumption

theorem drawerAt_eye (md ed : SvgDrawer) (n r c : Nat) :
    (isEye n r c = true → drawerAt md ed n r c = ed) ∧ (isEye n r c = false → drawerAt md ed n r c = md) := by
  unfold drawerAt; constructor <;> intro h <;> simp [h]

theorem shapeAt_ok (f : SvgFactory) (md ed : SvgDrawer) (n border box : Nat) (rc : Nat × Nat)
    (hm : md.num ≤ md.den) (he : ed.num ≤ ed.den) :
    (blobOf (shapeAt f md ed n border box rc)).centredOn border box rc.1 rc.2 = true ∧
    (blobOf (shapeAt f md ed n border box rc)).fitsCell box = true :=
  drawShape_centred_fits f.isPath (drawerAt md ed n rc.1 rc.2) border box rc.1 rc.2
    (drawerAt_num_le_den md ed n rc.1 rc.2 hm he)

end QR.Proofs.Svg
