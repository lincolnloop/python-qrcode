import QR.Model.Styled
/-
C14, Model side.  Python's `int()` on exact reals (`Model.truncInt`); `interp_color` as the `zipWith` of one channel's
mixture (`interpColor_eq_zipWith`), from which its values at `norm` = 0 and 1, its length and "a colour between the
configured end colours" are read off; the colour logic of `QRColorMask.apply_mask` on exact pixels; the embedded-image
geometry.  Mathlib-free: core `Rat` lemmas suffice.
-/
namespace QR.Proofs.Styled
open QR.Model

/-! ### `int()`: truncation toward zero

`SourceTieD5.truncQ` and the translated `cm_py_int`, `dr_pyInt`, `spil_pyInt` are `truncInt` by `rfl`: the source ties
cite these lemmas for all of them. -/

theorem truncInt_of_nonneg {q : Rat} (h : 0 ≤ q) : truncInt q = q.floor := if_pos h

theorem truncInt_nonneg_le {q : Rat} (h : 0 ≤ q) : 0 ≤ truncInt q ∧ ((truncInt q : Int) : Rat) ≤ q := by
  rw [truncInt_of_nonneg h]
  exact ⟨Rat.le_floor_iff.mpr (by rw [Rat.intCast_zero]; exact h), Rat.floor_le q⟩

/-- no sign condition on `v`: truncation toward zero never leaves an interval with integer ends -/
theorem truncInt_between (lo hi : Int) (v : Rat) (hlo : (lo : Rat) ≤ v) (hhi : v ≤ (hi : Rat)) :
    lo ≤ truncInt v ∧ truncInt v ≤ hi := by
  unfold truncInt
  split
  · refine ⟨Rat.le_floor_iff.mpr hlo, ?_⟩
    have := Rat.floor_monotone hhi
    rwa [Rat.floor_intCast] at this
  · constructor
    · have h : -v ≤ ((-lo : Int) : Rat) := by rw [Rat.intCast_neg]; grind
      have := Rat.floor_monotone h
      rw [Rat.floor_intCast] at this
      omega
    · have h : ((-hi : Int) : Rat) ≤ -v := by rw [Rat.intCast_neg]; grind
      have := Rat.le_floor_iff.mpr h
      omega

theorem truncInt_intCast (z : Int) : truncInt (z : Rat) = z :=
  have h := truncInt_between z z z Rat.le_refl Rat.le_refl
  Int.le_antisymm h.2 h.1

private theorem le_div_iff {a b c : Rat} (hc : 0 < c) : a ≤ b / c ↔ a * c ≤ b := by
  rw [← Rat.not_lt, Rat.div_lt_iff hc, Rat.not_lt]

theorem floor_intCast_div (a : Int) (b : Nat) (hb : 0 < b) : ((a : Rat) / ((b : Int) : Rat)).floor = a / (b : Int) := by
  have hb' : (0 : Rat) < ((b : Int) : Rat) := by exact_mod_cast hb
  apply Int.le_antisymm
  · have : ((a : Rat) / ((b : Int) : Rat)).floor < a / (b : Int) + 1 :=
      Rat.floor_lt_iff.mpr (by
        rw [Rat.div_lt_iff hb']
        exact_mod_cast Int.lt_ediv_add_one_mul_self a (by omega))
    omega
  · exact Rat.le_floor_iff.mpr (by
      rw [le_div_iff hb']
      exact_mod_cast Int.ediv_mul_le a (by omega))

/-- also at `b = 0` (both sides are 0), where Python raises ZeroDivisionError instead -/
theorem truncInt_intCast_div (a : Int) (b : Nat) : truncInt ((a : Rat) / ((b : Int) : Rat)) = Int.tdiv a (b : Int) := by
  rcases Nat.eq_zero_or_pos b with hb | hb
  · subst hb
    simp [truncInt, Rat.div_def, show Rat.floor 0 = 0 from Rat.floor_intCast 0]
  · have hb' : (0 : Rat) < ((b : Int) : Rat) := by exact_mod_cast hb
    unfold truncInt
    by_cases ha : 0 ≤ a
    · have hq : (a : Rat) / ((b : Int) : Rat) ≥ 0 := by
        rw [ge_iff_le, le_div_iff hb', Rat.zero_mul]
        exact_mod_cast ha
      rw [if_pos hq, floor_intCast_div a b hb, Int.tdiv_eq_ediv_of_nonneg ha]
    · have hq : ¬ (a : Rat) / ((b : Int) : Rat) ≥ 0 := by
        rw [ge_iff_le, le_div_iff hb', Rat.zero_mul]
        exact_mod_cast ha
      have e : -((a : Rat) / ((b : Int) : Rat)) = ((-a : Int) : Rat) / ((b : Int) : Rat) := by
        rw [Rat.intCast_neg, Rat.div_def, Rat.div_def, Rat.neg_mul]
      rw [if_neg hq, e, floor_intCast_div (-a) b hb, ← Int.tdiv_eq_ediv_of_nonneg (by omega), Int.neg_tdiv, Int.neg_neg]

theorem truncInt_eq_tdiv (q : Rat) : truncInt q = q.num.tdiv q.den := by
  have h := truncInt_intCast_div q.num q.den
  rwa [← Rat.divInt_eq_div, Rat.num_divInt_den] at h

/-! ### `interp_color`: every channel lies between the end colours -/

theorem convex_between_of_le (a b t : Rat) (h0 : 0 ≤ t) (h1 : t ≤ 1) (hab : a ≤ b) :
    a ≤ b * t + a * (1 - t) ∧ b * t + a * (1 - t) ≤ b := by
  have hd : 0 ≤ b - a := by grind
  have h2 : 0 ≤ (b - a) * t := Rat.mul_nonneg hd h0
  have h3 : (b - a) * t ≤ (b - a) * 1 := Rat.mul_le_mul_of_nonneg_left h1 hd
  constructor <;> grind

theorem convex_between (a b t : Rat) (h0 : 0 ≤ t) (h1 : t ≤ 1) :
    min a b ≤ b * t + a * (1 - t) ∧ b * t + a * (1 - t) ≤ max a b := by
  by_cases hab : a ≤ b
  · rw [Rat.min_def, Rat.max_def, if_pos hab, if_pos hab]
    exact convex_between_of_le a b t h0 h1 hab
  · -- the ends swapped: the mixture of `a`, `b` at `t` is the mixture of `b`, `a` at `1 - t`
    have e : a * (1 - t) + b * (1 - (1 - t)) = b * t + a * (1 - t) := by grind
    rw [Rat.min_def, Rat.max_def, if_neg hab, if_neg hab, ← e]
    exact convex_between_of_le b a (1 - t) (by grind) (by grind) (by grind)

theorem intCast_min (a b : Int) : ((min a b : Int) : Rat) = min (a : Rat) (b : Rat) := by
  rw [Rat.min_def, Int.min_def]
  by_cases h : a ≤ b
  · simp only [h, Rat.intCast_le_intCast.mpr h, if_true]
  · simp only [h, mt Rat.intCast_le_intCast.mp h, if_false]

theorem intCast_max (a b : Int) : ((max a b : Int) : Rat) = max (a : Rat) (b : Rat) := by
  rw [Rat.max_def, Int.max_def]
  by_cases h : a ≤ b
  · simp only [h, Rat.intCast_le_intCast.mpr h, if_true]
  · simp only [h, mt Rat.intCast_le_intCast.mp h, if_false]

/-- `interp_num`: one channel of `interp_color` -/
theorem channel_between (a b : Int) (t : Rat) (h0 : 0 ≤ t) (h1 : t ≤ 1) :
    min a b ≤ truncInt ((b : Rat) * t + (a : Rat) * (1 - t)) ∧
    truncInt ((b : Rat) * t + (a : Rat) * (1 - t)) ≤ max a b := by
  have h := convex_between (a : Rat) (b : Rat) t h0 h1
  rw [← intCast_min, ← intCast_max] at h
  exact truncInt_between _ _ _ h.1 h.2

/-- `interp_color` mixes channel by channel and stops at the shorter colour -/
theorem interpColor_eq_zipWith (c1 c2 : Colour) (t : Rat) :
    interpColor c1 c2 t = List.zipWith (fun a b : Int => truncInt ((b : Rat) * t + (a : Rat) * (1 - t))) c1 c2 := by
  induction c1 generalizing c2 with
  | nil => rfl
  | cons a t1 ih =>
    cases c2 with
    | nil => rfl
    | cons b t2 => rw [interpColor, List.zipWith_cons_cons, ih]

theorem interpColor_zero (back fg : Colour) (h : back.length ≤ fg.length) : interpColor back fg 0 = back := by
  have e : (fun a b : Int => truncInt ((b : Rat) * 0 + (a : Rat) * (1 - 0))) = fun a _ => a :=
    funext fun a => funext fun b => by
      rw [show (b : Rat) * 0 + (a : Rat) * (1 - 0) = (a : Rat) by grind, truncInt_intCast]
  rw [interpColor_eq_zipWith, e, ← List.map_uncurry_zip_eq_zipWith]
  exact List.map_fst_zip h

theorem interpColor_one (back fg : Colour) (h : back.length = fg.length) : interpColor back fg 1 = fg := by
  have e : (fun a b : Int => truncInt ((b : Rat) * 1 + (a : Rat) * (1 - 1))) = fun _ b => b :=
    funext fun a => funext fun b => by
      rw [show (b : Rat) * 1 + (a : Rat) * (1 - 1) = (b : Rat) by grind, truncInt_intCast]
  rw [interpColor_eq_zipWith, e, ← List.map_uncurry_zip_eq_zipWith]
  exact List.map_snd_zip (Nat.le_of_eq h.symm)

theorem interpColor_length (c1 c2 : Colour) (t : Rat) (hl : c1.length = c2.length) :
    (interpColor c1 c2 t).length = c1.length := by
  rw [interpColor_eq_zipWith, List.length_zipWith, ← hl, Nat.min_self]

theorem interpColor_between (c1 c2 : Colour) (t : Rat) (h0 : 0 ≤ t) (h1 : t ≤ 1) (hl : c1.length = c2.length) :
    ∀ i (hi : i < c1.length),
      min c1[i] (c2[i]'(hl ▸ hi)) ≤ (interpColor c1 c2 t)[i]! ∧
      (interpColor c1 c2 t)[i]! ≤ max c1[i] (c2[i]'(hl ▸ hi)) := by
  intro i hi
  rw [interpColor_eq_zipWith, getElem!_pos _ i (by rw [List.length_zipWith, ← hl, Nat.min_self]; exact hi),
    List.getElem_zipWith]
  exact channel_between _ _ t h0 h1

/-! ### the colour logic of `apply_mask` on exact pixels -/

/-- with paint = background no channel differs: the list of coefficients is empty (Python: `norm is None`) -/
theorem extrapColor_self (back paint pix : Colour) (h : paint = back) : extrapColor back paint pix = [] := by
  fun_induction extrapColor back paint pix with
  | case1 c1 t1 t2 ci ti ih => exact ih (List.tail_eq_of_cons_eq h)
  | case2 c1 t1 c2 t2 ci ti hc ih => exact absurd (List.head_eq_of_cons_eq h) hc
  | case3 => rfl

theorem extrapColor_ne_nil (back paint pix : Colour) (hl : back.length = paint.length)
    (hp : back.length ≤ pix.length) (hne : paint ≠ back) : extrapColor back paint pix ≠ [] := by
  fun_induction extrapColor back paint pix with
  | case1 c1 t1 t2 ci ti ih =>
    exact ih (Nat.succ.inj hl) (Nat.le_of_succ_le_succ hp) fun h => hne (by rw [h])
  | case2 => exact List.cons_ne_nil _ _
  | case3 back paint pix hno =>
    -- one of the three colours has run out: excluded by the lengths
    cases back with
    | nil => exact absurd (List.length_eq_zero_iff.1 hl.symm) hne
    | cons c1 t1 =>
      cases paint with
      | nil => cases hl
      | cons c2 t2 =>
        cases pix with
        | nil => cases hp
        | cons ci ti => exact absurd rfl (hno c1 t1 c2 t2 ci ti rfl rfl)

theorem extrapColor_back (back paint pix : Colour) (h : pix = back) : ∀ x ∈ extrapColor back paint pix, x = 0 := by
  fun_induction extrapColor back paint pix with
  | case1 c1 t1 t2 ci ti ih => exact ih (List.tail_eq_of_cons_eq h)
  | case2 c1 t1 c2 t2 ci ti hc ih =>
    intro x hx
    rcases List.mem_cons.mp hx with rfl | hx
    · rw [List.head_eq_of_cons_eq h, Int.sub_self, Rat.intCast_zero, Rat.div_def, Rat.zero_mul]
    · exact ih (List.tail_eq_of_cons_eq h) x hx
  | case3 => intro x hx; cases hx

theorem extrapColor_paint (back paint pix : Colour) (h : pix = paint) : ∀ x ∈ extrapColor back paint pix, x = 1 := by
  fun_induction extrapColor back paint pix with
  | case1 c1 t1 t2 ci ti ih => exact ih (List.tail_eq_of_cons_eq h)
  | case2 c1 t1 c2 t2 ci ti hc ih =>
    intro x hx
    rcases List.mem_cons.mp hx with rfl | hx
    · have : ((c2 - c1 : Int) : Rat) ≠ 0 := by
        rw [Ne, Rat.intCast_eq_zero_iff]; omega
      rw [List.head_eq_of_cons_eq h, Rat.div_def, Rat.mul_inv_cancel _ this]
    · exact ih (List.tail_eq_of_cons_eq h) x hx
  | case3 => intro x hx; cases hx

theorem sum_const (l : List Rat) (c : Rat) (h : ∀ x ∈ l, x = c) : l.sum = (l.length : Rat) * c := by
  induction l with
  | nil => exact (Rat.zero_mul c).symm
  | cons a t ih =>
    rw [List.sum_cons, h a (List.mem_cons_self ..), ih (fun x hx => h x (List.mem_cons_of_mem _ hx)),
      List.length_cons, Rat.natCast_add, Rat.add_mul, Rat.add_comm]
    exact congrArg ((t.length : Rat) * c + ·) (Rat.one_mul c).symm

theorem mean_const (l : List Rat) (c : Rat) (hne : l ≠ []) (h : ∀ x ∈ l, x = c) : mean l = some c := by
  have hl : (l.length : Rat) ≠ 0 := by
    rw [Ne, Rat.natCast_eq_zero_iff]; exact fun h0 => hne (List.length_eq_zero_iff.mp h0)
  rw [mean, if_neg (by simpa using hne), sum_const l c h, Rat.mul_comm, Rat.div_def, Rat.mul_assoc,
    Rat.mul_inv_cancel _ hl, Rat.mul_one]

/-- a pixel that is exactly the background (every light module, every quiet zone pixel) stays exactly the
    background, for *any* paint colour -/
theorem light_pixel_strong (back paint fg : Colour) (hfg : back.length ≤ fg.length) :
    applyMaskPixel back paint fg back = back := by
  unfold applyMaskPixel
  by_cases h : extrapColor back paint back = []
  · rw [h]; rfl
  · rw [mean_const _ 0 h (extrapColor_back back paint back rfl)]
    exact interpColor_zero back fg hfg

/-- on a grey pixel (v, v, v) the black-on-white mask changes nothing (exact arithmetic) -/
theorem solid_grey_pixel (v : Int) : applyMaskPixel [255, 255, 255] [0, 0, 0] [0, 0, 0] [v, v, v] = [v, v, v] := by
  have hq : ∀ q : Rat, (q + (q + (q + 0))) / ((3 : Nat) : Rat) = q := by
    intro q
    have : ((3 : Nat) : Rat) = 3 := rfl
    rw [this]; grind
  have hv : ((0 : Int) : Rat) * (((v - 255 : Int) : Rat) / ((0 - 255 : Int) : Rat))
      + ((255 : Int) : Rat) * (1 - ((v - 255 : Int) : Rat) / ((0 - 255 : Int) : Rat)) = (v : Rat) := by
    have e1 : ((v - 255 : Int) : Rat) = (v : Rat) - 255 := by rw [Rat.intCast_sub]; rfl
    have e2 : ((0 - 255 : Int) : Rat) = -255 := rfl
    have e3 : ((255 : Int) : Rat) = 255 := rfl
    have e4 : ((0 : Int) : Rat) = 0 := rfl
    rw [e1, e2, e3, e4]; grind
  have hne : ¬ ((0 : Int) = 255) := by decide
  simp only [applyMaskPixel, extrapColor, hne, if_false, mean, List.isEmpty_cons, Bool.false_eq_true, List.sum_cons,
    List.sum_nil, List.length_cons, List.length_nil, hq, interpColor, hv, truncInt_intCast]

/-! ### embedded-image geometry -/

/-- the second clause: the Nat subtraction `total - offset * 2` in `logoGeometry` does not truncate -/
theorem logo_offset (total box w : Nat) :
    box ∣ (logoGeometry total box w).1 ∧ (logoGeometry total box w).1 * 2 ≤ total := by
  refine ⟨Nat.dvd_mul_left _ _, ?_⟩
  simp only [logoGeometry]
  have := Nat.div_mul_le_self (total / 2 - w / 2) box
  omega

/-- `draw_embeded_image`: the logo is centred and module aligned; both bounds on its side are attained (examples in Props/C14) -/
theorem logo_geometry (total box w : Nat) (hbox : 0 < box) (hw : w ≤ total) :
    box ∣ (logoGeometry total box w).1 ∧
    (logoGeometry total box w).1 * 2 + (logoGeometry total box w).2 = total ∧
    w ≤ (logoGeometry total box w).2 + 1 ∧ (logoGeometry total box w).2 + 1 ≤ w + 2 * box := by
  refine ⟨Nat.dvd_mul_left _ _, ?_⟩
  simp only [logoGeometry]
  have h1 := Nat.div_add_mod (total / 2 - w / 2) box
  have h2 := Nat.mod_lt (total / 2 - w / 2) hbox
  rw [Nat.mul_comm] at h1
  generalize ((total / 2 - w / 2) / box) * box = o at *
  generalize (total / 2 - w / 2) % box = m at *
  omega

/-- `h` holds for every rendered image: `total = (modules + 2*border) * box` -/
theorem logo_side_dvd (total box w : Nat) (h : box ∣ total) : box ∣ (logoGeometry total box w).2 := by
  simp only [logoGeometry]
  apply Nat.dvd_sub h
  rw [Nat.mul_right_comm]; exact Nat.dvd_mul_left _ _

end QR.Proofs.Styled
