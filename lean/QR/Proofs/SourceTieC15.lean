import QR.Gen.Code
import QR.Model.Render
/-
Translation validation for C15, `QRCode.print_ascii` / `print_tty` (translated into `QR.Gen.Code.print_ascii_*`, `print_tty_*`,
`get_module_*`): the pieces that the ties in Props/C15 (`C15_source_printAscii_src`, `C15_source_printTty_src`,
`C15_source_get_module`) are assembled from - `if tty: invert = True`, the code table and its reversal, the string literals
as code points, and the text of `get_module`'s last branch, which is not translated as an expression.
-/
namespace QR.SourceTie
open QR.Model QR.Gen.Code

theorem getModule_inside : get_module_inside = "cast(int, self.modules[x][y])" := rfl

end QR.SourceTie

namespace QR.SourceTieB
open QR.Model QR.Gen.Code

theorem print_ascii_invert_eq (tty invert : Bool) : print_ascii_invert tty invert = (invert || tty) := by
  cases tty <;> cases invert <;> rfl

theorem print_ascii_codes_eq (inv : Bool) : print_ascii_codes inv = if inv then asciiCodes.reverse else asciiCodes := by
  cases inv <;> rfl

/-! ### the string literals of the two printers, as code points

Stated once: evaluating `"…".toList` decodes the literal's bytes again at every use, and the printers use these per cell. -/

theorem cps_bg232 : cps "\x1b[48;5;232m" = [27, 91, 52, 56, 59, 53, 59, 50, 51, 50, 109] := by
  rw [cps, String.toList_ofList]; rfl
theorem cps_fg255 : cps "\x1b[38;5;255m" = [27, 91, 51, 56, 59, 53, 59, 50, 53, 53, 109] := by
  rw [cps, String.toList_ofList]; rfl
theorem cps_reset : cps "\x1b[0m" = [27, 91, 48, 109] := by
  rw [cps, String.toList_ofList]; rfl
theorem cps_nl : cps "\n" = [10] := by
  rw [cps, String.toList_ofList]; rfl
theorem cps_light : cps "\x1b[1;47m" = [27, 91, 49, 59, 52, 55, 109] := by
  rw [cps, String.toList_ofList]; rfl
theorem cps_reset_nl : cps "\x1b[0m\n" = [27, 91, 48, 109, 10] := by
  rw [cps, String.toList_ofList]; rfl
theorem cps_light_sp_dark : cps "\x1b[1;47m  \x1b[40m" = [27, 91, 49, 59, 52, 55, 109, 32, 32, 27, 91, 52, 48, 109] := by
  rw [cps, String.toList_ofList]; rfl
theorem cps_light_sp_reset_nl :
    cps "\x1b[1;47m  \x1b[0m\n" = [27, 91, 49, 59, 52, 55, 109, 32, 32, 27, 91, 48, 109, 10] := by
  rw [cps, String.toList_ofList]; rfl
theorem cps_sp2 : cps "  " = [32, 32] := by
  rw [cps, String.toList_ofList]; rfl

end QR.SourceTieB
