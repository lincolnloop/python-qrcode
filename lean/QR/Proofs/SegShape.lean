import QR.Proofs.SegMark
import QR.Proofs.Conv
/-
C10 (segmentation): the character classes of Spec and Model are the same predicates; the shape of `addData` (every segment
is numeric / alphanumeric / byte, holds only characters of its class, and in the un-anchored case is long enough), `toPSegs`,
and the clauses lossless / valid / thresholdZero / minLength of `Spec.segmentation`.
-/
namespace QR.Seg
open QR.Model

theorem isDigitChar_eq : Spec.isDigitChar = Model.isDigit := rfl

theorem alnum_tables : Gen.ALPHA_NUM = Spec.alnumTable := rfl

theorem isAlnumChar_eq : Spec.isAlnumChar = Model.isAlnum := by
  funext c; simp only [Spec.isAlnumChar, Model.isAlnum, alnum_tables]

theorem isAlnum_of_isDigit {c : Nat} (h : isDigit c = true) : isAlnum c = true := by
  have table : ∀ k < 10, isAlnum (48 + k) = true := by decide
  simp only [isDigit, Bool.and_eq_true, decide_eq_true_eq] at h
  obtain ⟨k, rfl⟩ : ∃ k, c = 48 + k := ⟨c - 48, by omega⟩
  exact table k (by omega)

theorem isAlnum_10 : isAlnum 10 = false := by decide
theorem isDigit_10 : isDigit 10 = false := by decide

def modeOf (m : Nat) : Spec.Mode := if m = 1 then .numeric else if m = 2 then .alnum else .byte

/-- `toPSeg` without the failure case: any mode number other than 1 and 2 is read as byte -/
def conv (s : Seg) : Spec.PSeg := { mode := modeOf s.mode, data := s.data }

theorem toPSegs_of_modes : ∀ (l : List Seg), (∀ s ∈ l, s.mode = 1 ∨ s.mode = 2 ∨ s.mode = 4) →
    toPSegs l = some (l.map conv)
  | [], _ => rfl
  | s :: l, h => by
    have ih := toPSegs_of_modes l (fun s hs => h s (List.mem_cons_of_mem _ hs))
    have hs : toPSeg s = some (conv s) := by
      rcases h s List.mem_cons_self with h | h | h <;>
        simp [toPSeg, conv, modeOf, h, Spec.Mode.ofIndicator]
    simp only [toPSegs] at ih ⊢
    rw [List.mapM_cons, hs, ih]
    rfl

/-- `_optimal_split` with the pattern chosen by `optimal_data_chunks` -/
def splitBy (A : Prop) [Decidable A] (n : Nat) (p : Nat → Bool) (d : List Nat) : List (Bool × List Nat) :=
  if A then splitAnchored p d else splitRuns p n d.length d

theorem splitBy_pos {A : Prop} [Decidable A] (h : A) (n : Nat) (p : Nat → Bool) : splitBy A n p = splitAnchored p :=
  funext fun _ => if_pos h

theorem splitBy_neg {A : Prop} [Decidable A] (h : ¬ A) (n : Nat) (p : Nat → Bool) :
    splitBy A n p = fun d => splitRuns p n d.length d :=
  funext fun _ => if_neg h

/-- the segments built from an outer (digit) chunk list and an inner (alphanumeric) splitter -/
def segsOf (cs : List (Bool × List Nat)) (inner : List Nat → List (Bool × List Nat)) : List Seg :=
  cs.flatMap fun x =>
    if x.1 then [{ mode := 1, data := x.2 }]
    else (inner x.2).map fun y => { mode := if y.1 then 2 else 4, data := y.2 }

theorem optimalDataChunks_eq (data : List Nat) (n : Nat) :
    optimalDataChunks data n =
      segsOf (splitBy (data.length ≤ n) n isDigit data) (splitBy (data.length ≤ n) n isAlnum) := rfl

theorem splitBy_ok {A : Prop} [Decidable A] (n : Nat) (p : Nat → Bool) (d : List Nat) :
    ChunksOK p (if A then 0 else n) d (splitBy A n p d) := by
  unfold splitBy
  split
  · exact splitAnchored_ok d
  · exact (splitRuns_spec _ d (Nat.le_refl _)).1

def SegOK (m : Nat) (s : Seg) : Prop :=
  (s.mode = 1 ∧ (∀ c ∈ s.data, isDigit c = true) ∧ m ≤ s.data.length) ∨
  (s.mode = 2 ∧ (∀ c ∈ s.data, isAlnum c = true) ∧ m ≤ s.data.length) ∨
  s.mode = 4

theorem SegOK.mono {m m' : Nat} {s : Seg} (h : SegOK m s) (hm : m' ≤ m) : SegOK m' s := by
  rcases h with ⟨a, b, c⟩ | ⟨a, b, c⟩ | a
  · exact Or.inl ⟨a, b, Nat.le_trans hm c⟩
  · exact Or.inr (Or.inl ⟨a, b, Nat.le_trans hm c⟩)
  · exact Or.inr (Or.inr a)

theorem SegOK.mode {m : Nat} {s : Seg} (h : SegOK m s) : s.mode = 1 ∨ s.mode = 2 ∨ s.mode = 4 := by
  rcases h with ⟨a, _⟩ | ⟨a, _⟩ | a
  · exact Or.inl a
  · exact Or.inr (Or.inl a)
  · exact Or.inr (Or.inr a)

theorem segsOf_ok {m : Nat} {d : List Nat} {cs : List (Bool × List Nat)} {inner : List Nat → List (Bool × List Nat)}
    (h1 : ChunksOK isDigit m d cs) (h2 : ∀ c, ChunksOK isAlnum m c (inner c)) :
    (segsOf cs inner).flatMap (·.data) = d ∧ ∀ s ∈ segsOf cs inner, SegOK m s := by
  obtain ⟨rfl, hcs⟩ := h1
  constructor
  · rw [segsOf, List.flatMap_assoc]
    apply flatMap_congr
    intro x _
    by_cases hf : x.1 = true
    · simp [hf]
    · simp only [hf, if_false, Bool.false_eq_true, List.flatMap_map]
      exact (h2 x.2).1
  · intro s hs
    obtain ⟨x, hx, hs⟩ := List.mem_flatMap.mp hs
    by_cases hf : x.1 = true
    · simp only [hf, if_true, List.mem_singleton] at hs
      subst hs
      exact Or.inl ⟨rfl, (hcs x hx).2 hf⟩
    · simp only [hf, if_false, Bool.false_eq_true, List.mem_map] at hs
      obtain ⟨y, hy, rfl⟩ := hs
      by_cases hg : y.1 = true
      · exact Or.inr (Or.inl ⟨by simp [hg], ((h2 x.2).2 y hy).2 hg⟩)
      · exact Or.inr (Or.inr (by simp [hg]))

/-- the minimum segment length `optimalDataChunks` guarantees -/
def minOf (d : List Nat) (n : Nat) : Nat := if d.length ≤ n then 0 else n

theorem optimalDataChunks_ok (d : List Nat) (n : Nat) :
    (optimalDataChunks d n).flatMap (·.data) = d ∧ ∀ s ∈ optimalDataChunks d n, SegOK (minOf d n) s := by
  rw [optimalDataChunks_eq]
  exact segsOf_ok (splitBy_ok n isDigit d) (fun c => splitBy_ok n isAlnum c)

theorem optimalMode_cases (d : List Nat) :
    (optimalMode d = 1 ∧ d ≠ [] ∧ d.all isDigit = true) ∨
    (optimalMode d = 2 ∧ (d = [] ∨ d.all isDigit = false) ∧ d.all isAlnum = true) ∨
    (optimalMode d = 4 ∧ (d = [] ∨ d.all isDigit = false) ∧ d.all isAlnum = false) := by
  unfold optimalMode
  by_cases h1 : d = []
  · subst h1; simp [Gen.MODE_ALPHA_NUM]
  · by_cases h2 : d.all isDigit = true
    · simp [h1, h2, Gen.MODE_NUMBER]
    · by_cases h3 : d.all isAlnum = true
      · simp only [Bool.not_eq_true] at h2
        simp [h2, h3, Gen.MODE_ALPHA_NUM]
      · simp only [Bool.not_eq_true] at h2 h3
        simp [h2, h3, Gen.MODE_8BIT_BYTE]

theorem one_lt_optimalMode {d : List Nat} (h : d.all isDigit = false) : 1 < optimalMode d := by
  unfold optimalMode
  rw [h, Bool.and_false, if_neg Bool.false_ne_true]
  split
  · decide
  · decide

theorem two_lt_optimalMode {d : List Nat} (h : d.all isAlnum = false) : 2 < optimalMode d := by
  rcases optimalMode_cases d with ⟨_, _, h2⟩ | ⟨_, _, h2⟩ | ⟨e, _⟩
  · have : d.all isAlnum = true := List.all_eq_true.mpr fun c hc => isAlnum_of_isDigit (List.all_eq_true.mp h2 c hc)
    rw [h] at this
    cases this
  · rw [h] at h2
    cases h2
  · rw [e]
    decide

theorem optimalMode_ok (d : List Nat) : SegOK 0 { mode := optimalMode d, data := d } := by
  rcases optimalMode_cases d with ⟨h, _, h2⟩ | ⟨h, _, h2⟩ | ⟨h, _, _⟩
  · exact Or.inl ⟨h, List.all_eq_true.mp h2, Nat.zero_le _⟩
  · exact Or.inr (Or.inl ⟨h, List.all_eq_true.mp h2, Nat.zero_le _⟩)
  · exact Or.inr (Or.inr h)

theorem addData_ok (d : List Nat) (n : Nat) :
    (addData d n).flatMap (·.data) = d ∧ ∀ s ∈ addData d n, SegOK 0 s := by
  unfold addData
  split
  · exact ⟨(optimalDataChunks_ok d n).1, fun s hs => ((optimalDataChunks_ok d n).2 s hs).mono (Nat.zero_le _)⟩
  · refine ⟨by simp, fun s hs => ?_⟩
    simp only [List.mem_singleton] at hs
    subst hs; exact optimalMode_ok d

theorem _root_.QR.addData_flatMap_data (d : List Nat) (n : Nat) : (addData d n).flatMap (·.data) = d :=
  (addData_ok d n).1

/-- so the segments of `add_data` on bytes are the valid ones the stream theorems speak of -/
theorem addData_valid (d : List Nat) (n : Nat) (hd : ∀ c ∈ d, c < 256) : ∀ s ∈ addData d n, s.Valid := by
  intro s hs
  obtain ⟨hflat, hok⟩ := addData_ok d n
  have hsub : ∀ c ∈ s.data, c < 256 := by
    intro c hc
    apply hd
    rw [← hflat]
    exact List.mem_flatMap.mpr ⟨s, hs, hc⟩
  rcases hok s hs with ⟨a, b, _⟩ | ⟨a, b, _⟩ | a
  · exact Or.inl ⟨a, b⟩
  · exact Or.inr (Or.inl ⟨a, b⟩)
  · exact Or.inr (Or.inr ⟨a, hsub⟩)

theorem addData_calls_valid (calls : List (List Nat × Nat)) (hb : ∀ p ∈ calls, ∀ c ∈ p.1, c < 256) :
    ∀ s ∈ calls.flatMap fun p => addData p.1 p.2, s.Valid := fun s hs =>
  have ⟨p, hp, hsp⟩ := List.mem_flatMap.mp hs
  addData_valid p.1 p.2 (hb p hp) s hsp

theorem addData_toPSegs_eq (d : List Nat) (n : Nat) : toPSegs (addData d n) = some ((addData d n).map conv) :=
  toPSegs_of_modes _ fun s hs => ((addData_ok d n).2 s hs).mode

theorem conv_lossless (d : List Nat) (n : Nat) :
    (Spec.segmentation n d ((addData d n).map conv)).lossless = true := by
  simp only [Spec.segmentation, beq_iff_eq]
  rw [List.flatMap_map]
  exact (addData_ok d n).1

theorem canRepresent_conv {m : Nat} {s : Seg} (h : SegOK m s) : Spec.canRepresent (conv s).mode (conv s).data = true := by
  rcases h with ⟨a, b, _⟩ | ⟨a, b, _⟩ | a
  · simp only [conv, modeOf, a, if_true, Spec.canRepresent, isDigitChar_eq]
    exact List.all_eq_true.mpr b
  · simp only [conv, modeOf, a, Spec.canRepresent, isAlnumChar_eq]
    exact List.all_eq_true.mpr b
  · simp [conv, modeOf, a, Spec.canRepresent]

theorem conv_valid (d : List Nat) (n : Nat) :
    (Spec.segmentation n d ((addData d n).map conv)).valid = true := by
  simp only [Spec.segmentation, List.all_map, List.all_eq_true, Function.comp]
  intro s hs
  exact canRepresent_conv ((addData_ok d n).2 s hs)

theorem modeOf_optimalMode {d : List Nat} (hd : d ≠ []) : modeOf (optimalMode d) = Spec.mostCompact d := by
  simp only [Spec.mostCompact, isDigitChar_eq, isAlnumChar_eq]
  rcases optimalMode_cases d with ⟨h, _, h2⟩ | ⟨h, h1, h2⟩ | ⟨h, h1, h2⟩
  · rw [h, h2]
    rfl
  · rw [h, h1.resolve_left hd, h2]
    rfl
  · rw [h, h1.resolve_left hd, h2]
    rfl

theorem conv_thresholdZero (d : List Nat) (n : Nat) :
    (Spec.segmentation n d ((addData d n).map conv)).thresholdZero = true := by
  simp only [Spec.segmentation]
  by_cases hn : n = 0
  · subst hn
    by_cases hd : d = []
    · subst hd
      rfl
    · simp [addData, conv, modeOf_optimalMode hd]
  · simp [hn]

theorem conv_minLength (d : List Nat) (n : Nat) :
    (Spec.segmentation n d ((addData d n).map conv)).minLength = true := by
  simp only [Spec.segmentation]
  by_cases hn : n = 0
  · simp [hn]
  · by_cases hd : d.length ≤ n
    · simp [hd]
    · simp only [Bool.or_eq_true, beq_iff_eq, hn, decide_eq_true_eq, hd, false_or, List.all_map, List.all_eq_true,
        Function.comp]
      intro s hs
      simp only [addData, ne_eq, hn, not_false_eq_true, if_true] at hs
      have := (optimalDataChunks_ok d n).2 s hs
      simp only [minOf, hd, if_false] at this
      rcases this with ⟨a, _, c⟩ | ⟨a, _, c⟩ | a
      · exact Or.inr c
      · exact Or.inr c
      · left; simp [conv, modeOf, a]

end QR.Seg
