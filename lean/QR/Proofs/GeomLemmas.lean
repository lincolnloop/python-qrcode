import QR.Spec.Geometry
/-
The per-cell predicates of QR/Spec/Geometry.lean as linear arithmetic (distances, finder area) and as statements about
the list of alignment centres (`alignOf`), and what the proofs need of the 40 rows of that list; shared by the
function-pattern, format-information and counting proofs.
-/
namespace QR

theorem Spec.size_ge {v : Nat} (hv : 1 ≤ v) : 21 ≤ Spec.size v := by
  unfold Spec.size
  omega

/-- Python computes the size as `version * 4 + 17` -/
theorem Spec.size_eq (v : Nat) : v * 4 + 17 = Spec.size v := by
  unfold Spec.size
  omega

theorem Spec.dist_le_iff (a b k : Nat) : Spec.dist a b ≤ k ↔ a ≤ b + k ∧ b ≤ a + k := by
  unfold Spec.dist; split <;> omega

theorem Spec.cheb_le_iff (r c r0 c0 k : Nat) :
    Spec.cheb r c r0 c0 ≤ k ↔ r ≤ r0 + k ∧ r0 ≤ r + k ∧ c ≤ c0 + k ∧ c0 ≤ c + k := by
  unfold Spec.cheb
  rw [Nat.max_le, Spec.dist_le_iff, Spec.dist_le_iff]; omega

theorem Spec.cheb_self (r c k : Nat) : Spec.cheb r c r c ≤ k := by
  rw [Spec.cheb_le_iff]; omega

/-- triangle inequality, seen from a third point -/
theorem Spec.cheb_triangle {r c a b a' b' k k' : Nat} (h : Spec.cheb r c a b ≤ k) (h' : Spec.cheb r c a' b' ≤ k') :
    Spec.cheb a b a' b' ≤ k + k' := by
  rw [Spec.cheb_le_iff] at h h' ⊢; omega

theorem Spec.dist_add (a x y : Nat) : Spec.dist (a + x) (a + y) = Spec.dist x y := by
  unfold Spec.dist; split <;> split <;> omega

theorem Spec.cheb_add (a b x y x0 y0 : Nat) : Spec.cheb (a + x) (b + y) (a + x0) (b + y0) = Spec.cheb x y x0 y0 := by
  unfold Spec.cheb; rw [Spec.dist_add, Spec.dist_add]

theorem Spec.inFinderArea_iff (n r c : Nat) :
    Spec.inFinderArea n r c = true ↔
      Spec.cheb r c 3 3 ≤ 4 ∨ Spec.cheb r c 3 (n - 4) ≤ 4 ∨ Spec.cheb r c (n - 4) 3 ≤ 4 := by
  simp [Spec.inFinderArea, Spec.finderCentres]

theorem Spec.finderColour_iff (n r c : Nat) :
    Spec.finderColour n r c = true ↔
      ((Spec.cheb r c 3 3 ≤ 1 ∨ Spec.cheb r c 3 3 = 3) ∨
       (Spec.cheb r c 3 (n - 4) ≤ 1 ∨ Spec.cheb r c 3 (n - 4) = 3) ∨
       (Spec.cheb r c (n - 4) 3 ≤ 1 ∨ Spec.cheb r c (n - 4) 3 = 3)) := by
  simp [Spec.finderColour, Spec.finderCentres]

theorem inFinderArea_iff_lin {n r c : Nat} (hn : 21 ≤ n) (hr : r < n) (hc : c < n) :
    Spec.inFinderArea n r c = true ↔ (r ≤ 7 ∧ c ≤ 7) ∨ (r ≤ 7 ∧ n ≤ c + 8) ∨ (n ≤ r + 8 ∧ c ≤ 7) := by
  rw [Spec.inFinderArea_iff]
  simp only [Spec.cheb_le_iff]
  omega

theorem inTiming_iff_lin {n r c : Nat} (hn : 21 ≤ n) (hr : r < n) (hc : c < n) :
    Spec.inTiming n r c = true ↔ (c = 6 ∧ 8 ≤ r ∧ r + 8 < n) ∨ (r = 6 ∧ 8 ≤ c ∧ c + 8 < n) := by
  simp only [Spec.inTiming, Bool.and_eq_true, Bool.or_eq_true, beq_iff_eq, Bool.not_eq_true', ← Bool.not_eq_true,
    inFinderArea_iff_lin hn hr hc]
  omega

/-- the three pairs of coordinates that are not alignment centres (they lie inside the finder patterns) -/
def Excluded (n r0 c0 : Nat) : Prop := (r0 = 6 ∧ c0 = 6) ∨ (r0 = 6 ∧ c0 + 7 = n) ∨ (r0 + 7 = n ∧ c0 = 6)

theorem alignOf_some {v r c r0 c0 : Nat} (h : Spec.alignOf v r c = some (r0, c0)) :
    r0 ∈ Spec.alignmentCentres v ∧ c0 ∈ Spec.alignmentCentres v ∧ Spec.cheb r c r0 c0 ≤ 2 ∧
      ¬ Excluded (4 * v + 17) r0 c0 := by
  unfold Spec.alignOf at h
  obtain ⟨a, ha, h1⟩ := List.exists_of_findSome?_eq_some h
  split at h1
  · next hd1 =>
    obtain ⟨b, hb, h2⟩ := List.exists_of_findSome?_eq_some h1
    split at h2
    · next hd2 =>
      simp only [Option.some.injEq, Prod.mk.injEq] at h2
      obtain ⟨rfl, rfl⟩ := h2
      simp only [Bool.and_eq_true, decide_eq_true_eq, Bool.not_eq_true', Bool.or_eq_false_iff,
        Bool.and_eq_false_iff, beq_eq_false_iff_ne, ne_eq] at hd2
      refine ⟨ha, hb, ?_, ?_⟩
      · unfold Spec.cheb; exact Nat.max_le.2 ⟨hd1, hd2.1⟩
      · unfold Excluded; omega
    · simp at h2
  · simp at h1

theorem alignOf_none {v r c : Nat} (h : Spec.alignOf v r c = none) :
    ∀ r0 ∈ Spec.alignmentCentres v, ∀ c0 ∈ Spec.alignmentCentres v,
      ¬ Excluded (4 * v + 17) r0 c0 → ¬ Spec.cheb r c r0 c0 ≤ 2 := by
  intro r0 hr0 c0 hc0 hx hw
  obtain ⟨hwr, hwc⟩ := Nat.max_le.1 hw
  have h1 := List.findSome?_eq_none_iff.1 h r0 hr0
  rw [if_pos hwr] at h1
  have h2 := List.findSome?_eq_none_iff.1 h1 c0 hc0
  revert h2
  unfold Excluded at hx
  simp only [hwc, decide_true, Bool.true_and, ite_eq_right_iff, reduceCtorEq, imp_false, Bool.not_eq_true',
    Bool.or_eq_false_iff, Bool.and_eq_false_iff, beq_eq_false_iff_ne, ne_eq]
  omega

theorem alignmentCentres_shape (v : Nat) (h2 : 2 ≤ v) :
    ∃ mid, Spec.alignmentCentres v = 6 :: (mid ++ [Spec.size v - 7]) ∧ mid.length = v / 7 := by
  unfold Spec.alignmentCentres Spec.size
  rw [if_neg (by omega)]
  simp only []
  rw [show v / 7 + 2 - 1 = v / 7 + 1 by omega, List.range_succ, List.map_append]
  refine ⟨_, congrArg _ (congrArg _ ?_), by rw [List.length_map, List.length_range]⟩
  -- the last coordinate, index `v / 7`: the step is taken `v / 7 + 2 - 2 - v / 7 = 0` times off `4 * v + 10`
  simp

/-- evaluated over the 40 rows (the steps are in fact at least 12; 7 is what `GeoC.countP_function` needs) -/
theorem alignmentCentres_sorted : ∀ v, v ≤ 40 → 1 ≤ v → (Spec.alignmentCentres v).Pairwise fun a b => a + 7 ≤ b := by
  decide

theorem centres_bounds {n : Nat} {mid : List Nat} (hn : 21 ≤ n)
    (hs : (6 :: (mid ++ [n - 7])).Pairwise fun a b => a + 7 ≤ b) :
    (∀ a ∈ mid ++ [n - 7], 13 ≤ a ∧ a + 7 ≤ n) ∧ ∀ a ∈ mid, a + 14 ≤ n := by
  rw [List.pairwise_cons, List.pairwise_append] at hs
  have hM : ∀ a ∈ mid, a + 14 ≤ n := fun a ha => by
    have := hs.2.2.2 a ha (n - 7) (List.mem_singleton_self _)
    omega
  refine ⟨fun a ha => ⟨hs.1 a ha, ?_⟩, hM⟩
  rcases List.mem_append.1 ha with h | h
  · have := hM a h
    omega
  · rw [List.mem_singleton.1 h]
    omega

theorem alignmentCentres_mem {v a : Nat} (h1 : 1 ≤ v) (h40 : v ≤ 40) (ha : a ∈ Spec.alignmentCentres v) :
    a = 6 ∨ a = 4 * v + 10 ∨ (13 ≤ a ∧ a ≤ 4 * v + 3) := by
  rcases Nat.lt_or_ge v 2 with h | h2
  · obtain rfl : v = 1 := by omega
    cases ha
  · obtain ⟨mid, hcs, _⟩ := alignmentCentres_shape v h2
    have hs := alignmentCentres_sorted v h40 h1
    rw [hcs] at hs ha
    obtain ⟨hW, hM⟩ := centres_bounds (Spec.size_ge h1) hs
    unfold Spec.size at hW hM ha
    rcases List.mem_cons.1 ha with rfl | ha
    · exact Or.inl rfl
    · have := hW a ha
      rcases List.mem_append.1 ha with h | h
      · have := hM a h
        omega
      · rw [List.mem_singleton.1 h]
        omega

end QR
