import QR.Gen.Code
import QR.Model.Penalty
import QR.Proofs.Penalty
import QR.Proofs.Lists
/-
Translation validation of `util._lost_point_level2`, `util._lost_point_level4` (the float expression as an exact fraction) and
`util._lost_point_level1` (container, scanners, final sum).
The fragments `QR.Gen.Code.lp1_*`, `lp2_*`, `lp4_*` are produced by tools/t2_fragments/frag_c.py from the Python AST (and
`l1_term`, `l1_range` by translate.py); here the generic loop semantics (`for` over a `range`, `for` over an iterator with
`next(it, None)`) is instantiated with them and the hand-written Model is proved equal to the result.
-/
namespace QR.SourceTieT
open QR.Model QR.Gen.Code

/-- `modules[r][c]` on an `n × n` matrix (all indices the scanners use are in range there; see the bridging theorems'
    hypotheses `hlen`, `hrow`) -/
def lp_cell (M : BMat) (r c : Nat) : Bool := (M.getD r []).getD c false

/-- the index function `g` reads, from position `k` on, the entries of `l`, and `d` beyond them (the loops of the source index
    into the matrix, the Model recurses on lists; every scanner bridge below carries this relation from a list to its tail) -/
def Reads {α : Type} (d : α) (g : Nat → α) (k : Nat) (l : List α) : Prop := ∀ i, g (k + i) = l.getD i d

theorem Reads.head {α : Type} {d : α} {g : Nat → α} {k : Nat} {a : α} {t : List α} (h : Reads d g k (a :: t)) : g k = a := h 0

theorem Reads.tail {α : Type} {d : α} {g : Nat → α} {k : Nat} {a : α} {t : List α} (h : Reads d g k (a :: t)) :
    Reads d g (k + 1) t :=
  fun i => by rw [show k + 1 + i = k + (i + 1) by omega, h (i + 1)]; rfl

theorem reads_self {α : Type} (d : α) (l : List α) : Reads d (fun i => l.getD i d) 0 l := fun i => by rw [Nat.zero_add]

theorem reads_row (M : BMat) (o : Nat) : Reads false (lp_cell M o) 0 (M.getD o []) := reads_self false (M.getD o [])

theorem reads_col (M : BMat) (o : Nat) : Reads false (fun r => lp_cell M r o) 0 (M.map fun row => row.getD o false) := fun i => by
  rw [Nat.zero_add]
  unfold lp_cell
  simp only [List.getD_eq_getElem?_getD, List.getElem?_map]
  cases M[i]? <;> simp

/-- both passes of a scanner (`_lost_point_level1`, `_lost_point_level3`): `for row in range(n)`, then `for col in range(n)`, on an
    accumulator to which the iteration for row (column) `o` does what `act` does with that row (column) as a list: together
    they are the fold of `act` over the Model's list of lines -/
theorem both_passes {A : Type} (M : BMat) (n : Nat) (hlen : M.length = n) (act : A → List Bool → A)
    {rowScan colScan : A → Nat → A} (hR : ∀ a o, o < n → rowScan a o = act a (M.getD o []))
    (hC : ∀ a o, o < n → colScan a o = act a (M.map fun r => r.getD o false)) (a : A) :
    (List.range n).foldl colScan ((List.range n).foldl rowScan a) = (M ++ columns M n).foldl act a := by
  rw [foldl_congr fun a o ho => hR a o (List.mem_range.mp ho), foldl_congr fun a o ho => hC a o (List.mem_range.mp ho),
    List.foldl_append, ← foldl_getD_range M [] act a, hlen]
  exact (List.foldl_map ..).symm

/-! ## `_lost_point_level2` -/

/-- Python `for col in it: <body>` over an iterator `it` of the index list, where the body may call `next(it, None)`:
    `body col acc = (skip, acc')`, `skip` = the body advanced the iterator once more (no effect when it is exhausted) -/
def lp2_iterLoop (body : Nat → Nat → Bool × Nat) : Bool → List Nat → Nat → Nat
  | _, [], acc => acc
  | true, _ :: t, acc => lp2_iterLoop body false t acc
  | false, c :: t, acc => lp2_iterLoop body (body c acc).1 t (body c acc).2

/-- `_lost_point_level2(modules, modules_count)` assembled from the translated fragments -/
def level2Src (M : BMat) (n : Nat) : Nat :=
  let R := List.range (lp2_range_stop n).toNat
  R.foldl (fun lost row =>
    lp2_iterLoop (lp2_body (lp_cell M (lp2_this_row row)) (lp_cell M (lp2_next_row row))) false R lost) lp2_init

theorem lp2_body_src (f g : Nat → Bool) (col lost : Nat) :
    lp2_body f g col lost =
      if f (col + 1) ≠ g (col + 1) then (true, lost)
      else if f (col + 1) ≠ f col then (false, lost)
      else if f (col + 1) ≠ g col then (false, lost)
      else (false, lost + l2_weight) := by
  unfold lp2_body l2_weight
  cases f (col + 1) <;> cases g (col + 1) <;> cases f col <;> cases g col <;> rfl

private theorem range'_pred_length {α : Type} (k : Nat) (a b : α) (t : List α) :
    List.range' k ((a :: b :: t).length - 1) = k :: List.range' (k + 1) ((b :: t).length - 1) := by
  simp [List.range'_succ]

/-- one row pair: the inner loop, started at column `k` where the rest of the two rows is `r1`, `r2`, adds `l2scan` -/
private theorem lp2_inner (f g : Nat → Bool) (r1 r2 : List Bool) : ∀ (skip : Bool) (k acc : Nat),
    r1.length = r2.length → Reads false f k r1 → Reads false g k r2 →
    lp2_iterLoop (lp2_body f g) skip (List.range' k (r1.length - 1)) acc = acc + l2scan skip r1 r2 := by
  induction r1, r2 using Spec.blocks2.induct with
  | case1 a b ta c d tc ih =>
    intro skip k acc hl hf hg
    have hl' : (b :: ta).length = (d :: tc).length := by simpa using hl
    rw [range'_pred_length, QR.Proofs.Penalty.l2scan_cons_cons]
    cases skip with
    | true =>
      rw [lp2_iterLoop, ih false (k + 1) acc hl' hf.tail hg.tail]
      simp
    | false =>
      -- the translated body at column `k`, in terms of the four cells it reads
      have hbody : lp2_body f g k acc = (b != d, acc + if a = b ∧ a = c ∧ a = d then l2_weight else 0) := by
        rw [lp2_body_src, hf.head, hf.tail.head, hg.head, hg.tail.head]
        cases a <;> cases b <;> cases c <;> cases d <;> rfl
      rw [lp2_iterLoop, hbody, ih _ (k + 1) _ hl' hf.tail hg.tail]
      simp [Nat.add_assoc, l2_weight]
  | case2 r1 r2 hne =>
    intro skip k acc hl _ _
    have hshort : r1.length - 1 = 0 := by
      match r1, r2, hl, hne with
      | [], _, _, _ => rfl
      | [_], _, _, _ => rfl
      | a :: b :: ta, [], hl, _ => simp at hl
      | a :: b :: ta, [_], hl, _ => simp at hl
      | a :: b :: ta, c :: d :: tc, _, hne => exact (hne a b ta c d tc rfl rfl).elim
    rw [hshort, l2scan]
    · cases skip <;> rfl
    · exact hne

private theorem lp2_outer (n : Nat) (R : Nat → List Bool) : ∀ (M : BMat) (k acc : Nat),
    (∀ row ∈ M, row.length = n) → Reads [] R k M →
    (List.range' k (M.length - 1)).foldl (fun lost row =>
      lp2_iterLoop (lp2_body (fun c => (R (lp2_this_row row)).getD c false) (fun c => (R (lp2_next_row row)).getD c false))
        false (List.range' 0 (n - 1)) lost) acc = acc + level2 M := by
  intro M
  induction M with
  | nil => intro k acc _ _; simp [level2]
  | cons r1 t ih =>
    intro k acc hrow hR
    cases t with
    | nil => simp [level2]
    | cons r2 rest =>
      have h1 : r1.length = n := hrow r1 (by simp)
      have h2 : r2.length = n := hrow r2 (by simp)
      rw [range'_pred_length, List.foldl_cons, level2]
      have hin := lp2_inner (fun c => r1.getD c false) (fun c => r2.getD c false) r1 r2 false 0 acc (h1.trans h2.symm)
        (reads_self false r1) (reads_self false r2)
      have ea : R (lp2_this_row k) = r1 := hR.head
      have eb : R (lp2_next_row k) = r2 := hR.tail.head
      simp only [ea, eb]
      rw [h1] at hin
      rw [hin, ih (k + 1) (acc + l2scan false r1 r2) (fun row hr => hrow row (List.mem_cons_of_mem _ hr)) hR.tail]
      omega

/-- **`_lost_point_level2`**: on an `n × n` matrix the Model's list recursion equals the translated source (outer `for row in
    range(n - 1)`, inner `for col in iter(range(n - 1))` with the translated body, `lost_point` threaded through) -/
theorem lostPointLevel2_src (M : BMat) (n : Nat) (hlen : M.length = n) (hrow : ∀ row ∈ M, row.length = n) :
    level2 M = level2Src M n := by
  unfold level2Src
  have hs : (lp2_range_stop n).toNat = n - 1 := by unfold lp2_range_stop; omega
  simp only [hs, List.range_eq_range', lp2_init]
  have := lp2_outer n (fun r => M.getD r []) M 0 0 hrow (reads_self [] M)
  rw [hlen] at this
  simp only [Nat.zero_add] at this
  exact this.symm

/-! ## `_lost_point_level1` -/

/-- Python `range(a, b)` as a list -/
def lp1_pyRange (r : Nat × Nat) : List Nat := List.range' r.1 (r.2 - r.1)

theorem lp1_pyRange_zero (n : Nat) : lp1_pyRange (0, n) = List.range n := by
  simp [lp1_pyRange, List.range_eq_range']

/-- one line of `_lost_point_level1`: `prologue; for i in range: step; flush`, the loop-carried variables are
    `(previous_color, length, container)` -/
def lp1_line (init : Bool × Nat) (step : Nat → Bool → Nat → List Nat → Bool × Nat × List Nat)
    (flush : Bool → Nat → List Nat → List Nat) (rng : Nat × Nat) (container : List Nat) : List Nat :=
  let s := (lp1_pyRange rng).foldl (fun s i => step i s.1 s.2.1 s.2.2) (init.1, init.2, container)
  flush s.1 s.2.1 s.2.2

/-- `_lost_point_level1(modules, modules_count)` assembled from the translated fragments: the row scanners, then the column
    scanners on the same `container`, then `lost_point += sum(container[i] * (i - 2) for i in range(5, n + 1))` -/
def level1Src (M : BMat) (n : Nat) : Nat :=
  let c1 := (lp1_pyRange (lp1_range n)).foldl (fun c row =>
    lp1_line (lp1_row_init (lp_cell M) row) (lp1_row_step (lp_cell M) row) (lp1_row_flush (lp_cell M) row) (lp1_range n) c)
    (lp1_container n)
  let c2 := (lp1_pyRange (lp1_range n)).foldl (fun c col =>
    lp1_line (lp1_col_init (lp_cell M) col) (lp1_col_step (lp_cell M) col) (lp1_col_flush (lp_cell M) col) (lp1_range n) c)
    c1
  lp1_total lp1_init (((lp1_pyRange (l1_range n)).map fun len => l1_term (c2.getD (lp1_sum_index len) 0) len).sum)

def lp1_lineStep (x : Bool) (s : Bool × Nat × List Nat) : Bool × Nat × List Nat :=
  if x = s.1 then (s.1, s.2.1 + 1, s.2.2)
  else (x, 1, if s.2.1 ≥ 5 then s.2.2.modify s.2.1 (fun x => x + 1) else s.2.2)

def lp1_lineFlush (s : Bool × Nat × List Nat) : List Nat :=
  if s.2.1 ≥ 5 then s.2.2.modify s.2.1 (fun x => x + 1) else s.2.2

/-- the translated step / flush of both scanners are the same function of the cell they read -/
theorem lp1_step_src (m : Nat → Nat → Bool) (o i : Nat) (p : Bool) (len : Nat) (c : List Nat) :
    lp1_row_step m o i p len c = lp1_lineStep (m o i) (p, len, c) ∧ lp1_col_step m o i p len c = lp1_lineStep (m i o) (p, len, c) ∧
    lp1_row_flush m o p len c = lp1_lineFlush (p, len, c) ∧ lp1_col_flush m o p len c = lp1_lineFlush (p, len, c) ∧
    lp1_row_init m o = (m o 0, 0) ∧ lp1_col_init m o = (m 0 o, 0) := by
  unfold lp1_row_step lp1_col_step lp1_row_flush lp1_col_flush lp1_lineStep lp1_lineFlush lp1_row_init lp1_col_init
  refine ⟨?_, ?_, ?_, ?_, rfl, rfl⟩
  · by_cases h : m o i = p <;> by_cases h5 : len ≥ 5 <;> simp [h, h5]
  · by_cases h : m i o = p <;> by_cases h5 : len ≥ 5 <;> simp [h, h5]
  · by_cases h5 : len ≥ 5 <;> simp [h5]
  · by_cases h5 : len ≥ 5 <;> simp [h5]

/-- `container[L] += 1` for every recorded run, in order -/
private def addRuns (c : List Nat) (runs : List Nat) : List Nat := runs.foldl (fun c L => c.modify L (fun x => x + 1)) c

private theorem addRuns_append (c : List Nat) (a b : List Nat) : addRuns c (a ++ b) = addRuns (addRuns c a) b :=
  List.foldl_append

private theorem addRuns_flatMap (Ls : List (List Bool)) (c : List Nat) :
    Ls.foldl (fun c l => addRuns c (lineRuns l)) c = addRuns c (Ls.flatMap lineRuns) :=
  List.foldl_flatMap.symm

private theorem addRuns_length (runs : List Nat) : ∀ c : List Nat, (addRuns c runs).length = c.length := by
  induction runs with
  | nil => intro c; rfl
  | cons x t ih => intro c; simp only [addRuns, List.foldl_cons] at ih ⊢; rw [ih, List.length_modify]

private theorem addRuns_hist (runs : List Nat) : ∀ (c : List Nat), (∀ x ∈ runs, x < c.length) → ∀ j,
    (addRuns c runs).getD j 0 = c.getD j 0 + runs.count j := by
  induction runs with
  | nil => intro c _ j; simp [addRuns]
  | cons x t ih =>
    intro c h j
    have hx : x < c.length := h x List.mem_cons_self
    have := ih (c.modify x (fun y => y + 1)) (by
      intro y hy; rw [List.length_modify]; exact h y (List.mem_cons_of_mem _ hy)) j
    simp only [addRuns, List.foldl_cons] at this ⊢
    rw [this, List.count_cons, List.getD_eq_getElem?_getD, List.getD_eq_getElem?_getD, List.getElem?_modify]
    by_cases hj : x = j
    · subst hj
      rw [List.getElem?_eq_getElem hx]
      simp; omega
    · have : (x == j) = false := by simpa using hj
      simp [hj, this]

private theorem scan_runs (xs : List Bool) : ∀ (prev : Bool) (len : Nat) (c : List Nat),
    lp1_lineFlush (xs.foldl (fun s x => lp1_lineStep x s) (prev, len, c)) = addRuns c (runScan prev len xs) := by
  induction xs with
  | nil =>
    intro prev len c
    simp only [List.foldl_nil, lp1_lineFlush, runScan]
    by_cases h : len ≥ 5 <;> simp [h, addRuns]
  | cons x xs ih =>
    intro prev len c
    rw [List.foldl_cons, runScan]
    by_cases hx : x = prev
    · rw [if_pos hx]
      have : lp1_lineStep x (prev, len, c) = (prev, len + 1, c) := by simp [lp1_lineStep, hx]
      rw [this, ih]
    · rw [if_neg hx, addRuns_append]
      have : lp1_lineStep x (prev, len, c) = (x, 1, if len ≥ 5 then c.modify len (fun x => x + 1) else c) := by
        simp [lp1_lineStep, hx]
      rw [this, ih]
      by_cases h : len ≥ 5 <;> simp [h, addRuns]

/-- one line of `_lost_point_level1`, scanned through `get`: its runs are recorded in the container -/
private theorem line_runs (n : Nat) {init : Bool × Nat} {step : Nat → Bool → Nat → List Nat → Bool × Nat × List Nat}
    {flush : Bool → Nat → List Nat → List Nat} (get : Nat → Bool) {l : List Bool} (hinit : init = (get 0, 0))
    (hstep : ∀ i p len c, step i p len c = lp1_lineStep (get i) (p, len, c))
    (hflush : ∀ p len c, flush p len c = lp1_lineFlush (p, len, c)) (hget : Reads false get 0 l) (hl : l.length = n)
    (c : List Nat) :
    lp1_line init step flush (0, n) c = addRuns c (lineRuns l) := by
  have hg : get = fun i => l.getD i false := funext fun i => by
    have := hget i
    rwa [Nat.zero_add] at this
  subst hg hl
  simp only [lp1_line, hinit, hstep, hflush]
  rw [lp1_pyRange_zero, foldl_getD_range l false fun s x => lp1_lineStep x s]
  cases l with
  | nil => simp [lp1_lineFlush, lineRuns, addRuns]
  | cons x xs => exact scan_runs (x :: xs) x 0 c

/-- **`_lost_point_level1`**: on an `n × n` matrix the Model (`lineRuns` of all rows and columns, histogram by `count`,
    weighted sum) equals the translated source (row scanners and column scanners updating `container`, final sum) -/
theorem lostPointLevel1_src (M : BMat) (n : Nat) (hlen : M.length = n) (hrow : ∀ row ∈ M, row.length = n) :
    level1 M n = level1Src M n := by
  have hb : ∀ x ∈ (M ++ columns M n).flatMap lineRuns, x < (lp1_container n).length := by
    intro x hx
    have := QR.Proofs.Penalty.runs_bounds M n hlen hrow x hx
    simp [lp1_container]; omega
  unfold level1 level1Src
  simp only [show lp1_range n = (0, n) from rfl, lp1_pyRange_zero]
  -- init, step and flush of both scanners are the components of `lp1_step_src`
  rw [both_passes M n hlen (fun c l => addRuns c (lineRuns l))
      (fun c o ho => line_runs n (lp_cell M o) (lp1_step_src _ o 0 false 0 []).2.2.2.2.1
        (fun i p len c => (lp1_step_src _ o i p len c).1) (fun p len c => (lp1_step_src _ o 0 p len c).2.2.1)
        (reads_row M o) (hrow _ (getD_mem (hlen ▸ ho) [])) c)
      (fun c o _ => line_runs n (fun i => lp_cell M i o) (lp1_step_src _ o 0 false 0 []).2.2.2.2.2
        (fun i p len c => (lp1_step_src _ o i p len c).2.1) (fun p len c => (lp1_step_src _ o 0 p len c).2.2.2.1)
        (reads_col M o) (by simp [hlen]) c),
    addRuns_flatMap]
  simp only [lp1_total, lp1_init, Nat.zero_add, lp1_sum_index, l1_term, l1_range, lp1_pyRange]
  rw [List.range'_eq_map_range, List.map_map]
  congr 1
  apply List.map_congr_left
  intro k _
  simp only [Function.comp]
  rw [addRuns_hist _ _ hb]
  have h0 : (lp1_container n).getD (5 + k) 0 = 0 := by
    simp [lp1_container, List.getD_eq_getElem?_getD, List.getElem?_replicate]
    split <;> rfl
  rw [h0, Nat.zero_add, Nat.add_comm 5 k]

/-! ## `_lost_point_level4` -/

/-- `sum(map(sum, modules))` is the Model's dark count -/
theorem lp4_dark_count_src (M : BMat) : lp4_dark_count M = darkCount M := by
  unfold lp4_dark_count darkCount
  rw [List.map_congr_left fun row _ => sum_map_toNat row]

/-- **`_lost_point_level4`**: the Model's integer form equals the EXACT (rational-arithmetic) value of the translated Python
    expression `int(abs(float(dark_count) / modules_count ** 2 * 100 - 50) / 5) * 10`, for every matrix and every `n`.
    (Assumption outside Lean: the IEEE double evaluation yields the same integer as the exact evaluation.) -/
theorem lostPointLevel4_src (M : BMat) (n : Nat) :
    (level4 M n : Int) = lp4_result (lp4_dark_count M) n := by
  rw [lp4_dark_count_src]
  unfold level4 lp4_result lp4_rating lp4_percent_num lp4_percent_den
  generalize darkCount M = d
  simp only [Int.mul_one, Int.one_mul]
  have ht : ((n : Int) ^ 2) = ((n * n : Nat) : Int) := by rw [Int.pow_succ, Int.pow_succ, Int.pow_zero, Int.one_mul]; simp
  rw [ht]
  generalize n * n = t
  have e1 : ((((d : Int) * 100 - 50 * (t : Int)).natAbs : Nat)) =
      5 * (if 20 * d ≥ 10 * t then 20 * d - 10 * t else 10 * t - 20 * d) := by split <;> omega
  have e2 : (((t : Int).natAbs : Nat)) = t := by omega
  rw [e1, e2]
  generalize (if 20 * d ≥ 10 * t then 20 * d - 10 * t else 10 * t - 20 * d) = x
  have e3 : Int.tdiv ((5 * x : Nat) : Int) ((t : Int) * 5) = ((x / t : Nat) : Int) := by
    rw [show ((t : Int) * 5) = ((5 * t : Nat) : Int) by simp [Int.mul_comm]]
    rw [← Int.ofNat_tdiv]
    congr 1
    cases t with
    | zero => simp
    | succ t => exact Nat.mul_div_mul_left _ _ (by omega)
  rw [e3]
  simp

end QR.SourceTieT
