import QR.Model.Compile
import QR.Spec.Penalty
import QR.Spec.MaskChoice
import QR.Proofs.MaskChoice
import QR.Proofs.Total
import QR.Proofs.SourceTieC09
import QR.Proofs.Pinned
import QR.Proofs.CapstoneCompile
/-
C09 - automatic mask = first minimiser of the penalty over the eight trial symbols; explicit mask used as given.
Against the Spec (`C09_chooseMask`): the mask recorded in and applied to a compiled symbol is `Spec.chooseMask` of that
symbol - the ISO minimiser (lowest penalty over the eight candidate symbols, format / version information areas and
dark module light, lowest number on ties) computed from the finished symbol alone.  Its ingredients: the loop (`C09_auto`), each trial
symbol is the Spec's candidate (`C09_trial_candidate`, `C09_trial_score`), the choice is recorded and applied (`C09_auto_recorded`).
`C09_source_*`: bridges, capstones and the fingerprint obligation (the three kinds are explained at the head of Props/C02.lean).
-/
namespace QR.Props
open QR.Model

/-- **automatic choice**: `best_mask_pattern()` returns the lowest-numbered mask whose trial symbol
    (built with `test = True`, i.e. format/version areas and dark module light) has the least `lost_point` -/
theorem C09_auto (v l : Nat) (data : List Nat) (Ms : Nat → Mat)
    (h : ∀ i, i < 8 → makeImpl v l true i data = .ok (Ms i)) :
    bestMaskPattern v l data = .ok (Spec.argminFirst 8 fun i => lostPoint (Ms i).toBMat) :=
  Proofs.bestMaskPattern_eq v l data Ms h

/-- **explicit choice**: with `mask_pattern = m` the compile builds the final symbol with exactly `m`
    (the same argument goes to the format information and to `map_data`) and reports it -/
theorem C09_explicit (cfg : Cfg) (segs : List Seg) (m : Nat) (hm : cfg.mask = some m)
    (v k : Nat) (M : Mat) (h : compile cfg segs = .ok (v, k, M)) :
    k = m ∧ ∃ data, createData v cfg.level segs = .ok data ∧ makeImpl v cfg.level false m data = .ok M := by
  obtain ⟨data, _, hd, hk, hM⟩ := Proofs.compile_eq_ok.mp h
  rw [hm] at hk
  cases hk
  exact ⟨rfl, data, hd, hM⟩

/-- **automatic choice is recorded and applied**: with no mask given, the final symbol is built with the mask
    `best_mask_pattern` returned -/
theorem C09_auto_recorded (cfg : Cfg) (segs : List Seg) (hm : cfg.mask = none)
    (v k : Nat) (M : Mat) (h : compile cfg segs = .ok (v, k, M)) :
    ∃ data, createData v cfg.level segs = .ok data ∧ bestMaskPattern v cfg.level data = .ok k ∧
      makeImpl v cfg.level false k data = .ok M := by
  obtain ⟨data, _, hd, hb, hM⟩ := Proofs.compile_eq_ok.mp h
  rw [hm] at hb
  exact ⟨data, hd, hb, hM⟩

/-- **trial symbols**: in the symbol `best_mask_pattern` builds for a mask (`test = True`) every format cell, every
    version cell (v ≥ 7) and the dark module is light -/
theorem C09_trial_blank (v level mask : Nat) (data : List Nat)
    (h1 : 1 ≤ v) (h40 : v ≤ 40) (hl : level < 4) (hk : mask < 8)
    (M : Mat) (h : makeImpl v level true mask data = .ok M) :
    ∀ r c, r < 4 * v + 17 → c < 4 * v + 17 →
      (Spec.inFormat (4 * v + 17) r c = true ∨ Spec.inVersion v (4 * v + 17) r c = true ∨
        Spec.isDarkModule (4 * v + 17) r c = true) → M.get r c = some false :=
  fun r c hr hc ha => MaskChoice.trial_blank h1 hl h r c hr hc
    (by simpa only [Spec.size, Bool.or_eq_true, or_assoc] using ha)

/-- **trial symbol = ISO candidate**: the trial symbol for mask `i` is, cell for cell, the candidate symbol the Spec
    derives from the final symbol (built with mask `m`) alone: information areas light, function modules unchanged, data
    modules re-masked from `m` to `i`.  `S` is any Boolean view of the final matrix (for C01's `symOf M`: `C09_trial_candidate_symOf`). -/
theorem C09_trial_candidate (v level m i : Nat) (data : List Nat)
    (h1 : 1 ≤ v) (h40 : v ≤ 40) (hl : level < 4) (hm : m < 8) (hi : i < 8)
    (M Mi : Mat) (hM : makeImpl v level false m data = .ok M) (hMi : makeImpl v level true i data = .ok Mi)
    (S : Spec.Sym) (hn : S.n = 4 * v + 17)
    (hS : ∀ r c, r < 4 * v + 17 → c < 4 * v + 17 → S.get r c = (M.get r c).getD false) :
    Mi.toBMat = Spec.candidate S v m i :=
  MaskChoice.trial_candidate h1 hl hM hMi ⟨hn, hS⟩

/-- the score the code gives a trial symbol is the ISO penalty of the corresponding candidate (C08 on the trial matrix) -/
theorem C09_trial_score (v level m i : Nat) (data : List Nat)
    (h1 : 1 ≤ v) (h40 : v ≤ 40) (hl : level < 4) (hm : m < 8) (hi : i < 8)
    (M Mi : Mat) (hM : makeImpl v level false m data = .ok M) (hMi : makeImpl v level true i data = .ok Mi)
    (S : Spec.Sym) (hn : S.n = 4 * v + 17)
    (hS : ∀ r c, r < 4 * v + 17 → c < 4 * v + 17 → S.get r c = (M.get r c).getD false) :
    lostPoint Mi.toBMat = Spec.penalty (Spec.candidate S v m i) :=
  MaskChoice.trial_score h1 hl hM hMi ⟨hn, hS⟩

/-- `makeImpl` level: if `best_mask_pattern` returned `m` for the codewords and the final symbol was built with `m`, then
    `m` is the ISO choice computed from the final symbol -/
theorem C09_chooseMask_makeImpl (v level m : Nat) (data : List Nat)
    (h1 : 1 ≤ v) (h40 : v ≤ 40) (hl : level < 4)
    (hb : bestMaskPattern v level data = .ok m) (M : Mat) (hM : makeImpl v level false m data = .ok M)
    (S : Spec.Sym) (hn : S.n = 4 * v + 17)
    (hS : ∀ r c, r < 4 * v + 17 → c < 4 * v + 17 → S.get r c = (M.get r c).getD false) :
    Spec.chooseMask S v m = m := by
  obtain ⟨Ms, hMs⟩ := Proofs.trials_exist v h40 level data
  have hauto := C09_auto v level data Ms hMs
  rw [hb] at hauto
  have hm' : m = Spec.argminFirst 8 fun i => lostPoint (Ms i).toBMat := Except.ok.inj hauto
  rw [MaskChoice.chooseMask_of_trials h1 hl hM hMs ⟨hn, hS⟩]
  exact hm'.symm

/-- **C09 (main, against the Spec)**: with no mask requested, the mask recorded in and applied to the compiled symbol is
    exactly the mask ISO 7.8.3 selects, computed by the Spec from that symbol alone: re-mask the data region with each of
    the eight patterns, leave format / version information and dark module light, score with the four penalty rules, take
    the lowest score, lowest number on ties.  `S` is any Boolean view of the compiled matrix (for C01's `symOf M`:
    `C09_chooseMask_symOf`). -/
theorem C09_chooseMask (cfg : Cfg) (hcfg : cfg.Valid) (l : Spec.Level) (hl : cfg.level = l.indicator)
    (segs : List Seg) (hv : ∀ s ∈ segs, s.Valid) (hm : cfg.mask = none)
    (v m : Nat) (M : Mat) (h : compile cfg segs = .ok (v, m, M))
    (S : Spec.Sym) (hn : S.n = M.size) (hS : ∀ r c, S.get r c = (M.get r c).getD false) :
    Spec.chooseMask S v m = m := by
  obtain ⟨ps, hp⟩ := toPSegs_of_valid hv
  obtain ⟨h1, h40, _⟩ := QR.Proofs.C03_ok_range cfg hcfg l hl segs hv ps hp v m M h
  obtain ⟨data, _, hb, hM⟩ := C09_auto_recorded cfg segs hm v m M h
  have hli : cfg.level < 4 := hl ▸ l.indicator_lt
  have hsize : M.size = 4 * v + 17 :=
    (Sym.makeImpl_of_ok h1 hli hM).shape.1
  exact C09_chooseMask_makeImpl v cfg.level m data h1 h40 hli hb M hM S (hn.trans hsize) (fun r c _ _ => hS r c)

/-- non-vacuity / smoke test (`C09_trial_blank`, `C09_trial_candidate`): version 1-M, final symbol with mask 3, trial symbol
    for mask 5: the trial matrix is the Spec candidate; its dark module and a format cell are light, the final dark module
    is dark.  (The whole of `C09_chooseMask` on `compile` with `mask = none`, v = 1, 2 and 7, was checked by `#eval`; in the
    kernel the eight `lost_point` evaluations alone take about a minute, so it is not repeated here; the hypotheses of
    `C09_chooseMask` are satisfiable by `C03_total` / `C03_iff`.) -/
example : (match makeImpl 1 0 false 3 [64, 38, 134, 144, 236, 17], makeImpl 1 0 true 5 [64, 38, 134, 144, 236, 17] with
    | .ok M, .ok Mi => Mi.toBMat == Spec.candidate { n := M.size, get := fun r c => (M.get r c).getD false } 1 3 5
        && Mi.get 13 8 == some false && M.get 13 8 == some true && Mi.get 8 2 == some false
    | _, _ => false) = true := by decide +kernel

/-- non-vacuity: a tie between masks 1 and 2 keeps the lower number; a later strict minimum wins -/
example : Spec.argminFirst 8 (fun i => [9, 4, 4, 7, 4, 8, 9, 9].getD i 0) = 1 := by decide
example : Spec.argminFirst 8 (fun i => [9, 4, 4, 7, 3, 8, 3, 9].getD i 0) = 4 := by decide

/-! ### the same with C01's view `symOf M` of the compiled matrix (the view handed to the strict reader `Spec.read` in C01 and to
    `Spec.chooseMask` by the oracle sweep) -/

/-- the trial symbol for mask `i` equals the Spec candidate derived from the final symbol -/
theorem C09_trial_candidate_symOf (v level m i : Nat) (data : List Nat)
    (h1 : 1 ≤ v) (h40 : v ≤ 40) (hl : level < 4) (hm : m < 8) (hi : i < 8)
    (M Mi : Model.Mat) (hM : Model.makeImpl v level false m data = .ok M)
    (hMi : Model.makeImpl v level true i data = .ok Mi) :
    Mi.toBMat = Spec.candidate (symOf M) v m i :=
  C09_trial_candidate v level m i data h1 h40 hl hm hi M Mi hM hMi (symOf M)
    (Sym.makeImpl_of_ok h1 hl hM).shape.1 (fun _ _ _ _ => rfl)

/-- `C09_chooseMask` at the view `symOf M`: with no mask requested, the mask recorded in and applied to a compiled symbol is
    exactly the ISO minimiser computed from that symbol alone by the Spec -/
theorem C09_chooseMask_symOf (cfg : Model.Cfg) (hcfg : cfg.Valid) (l : Spec.Level) (hl : cfg.level = l.indicator)
    (segs : List Model.Seg) (hv : ∀ s ∈ segs, s.Valid) (hm : cfg.mask = none)
    (v m : Nat) (M : Model.Mat) (h : Model.compile cfg segs = .ok (v, m, M)) :
    Spec.chooseMask (symOf M) v m = m :=
  C09_chooseMask cfg hcfg l hl segs hv hm v m M h (symOf M) rfl (fun _ _ => rfl)

/-! ### Bridge (`tools/translate.py` itself: single expressions and literals) for the loop of `best_mask_pattern` -/

/-- the loop of `best_mask_pattern` as it stands in the source: eight candidates built by `makeImpl(True, i)`, running
    minimum updated by the translated test -/
theorem C09_source_loop (st : Nat × Nat) (i lost : Nat) :
    pickMask st i lost = (if Gen.Code.pick_update i st.1 lost then (lost, i) else st) ∧
    Gen.Code.mask_candidates = 8 ∧ Gen.Code.mask_trial_call = "self.makeImpl(True, i)" :=
  ⟨QR.SourceTie.pick_eq st i lost, QR.SourceTie.candidates⟩

/-! ### Bridges (plugin `frag_d6.py`, functions translated whole as `Gen.Code.lo_*`): the module-level `qrcode.make`; the Model-side
    definitions `makeShortcut`, `MakeKw` are in QR/Proofs/SourceTieC09.lean. -/
section SourceTieD6
open QR.Gen.Code QR.SourceTieD6

/-- the callees of the module-level `qrcode.make(data=None, **kwargs)` (qrcode/main.py), in statement order -/
theorem C09_source_make_literals : lo_make_callees = ("QRCode", "add_data", "make_image") ∧ lo_make_data_default = "None" :=
  ⟨rfl, rfl⟩

/-- `qrcode.make()`: the Model's shortcut (`construct`, then `Op.addData`, then `Op.makeImage`) is the translated statement
    sequence - the constructor gets `**kwargs` and nothing else, `add_data` gets `data` only, `make_image()` no arguments -/
theorem C09_source_makeShortcut_src (g : Global) (kw : MakeKw) (data : Bytes) :
    makeShortcut g kw data =
      lo_make (fun kw : MakeKw => (construct kw.version kw.level kw.boxSize kw.border kw.mask).map (fun s => (g, s)))
        (fun st d => .ok (step st (.addData d 20)).1) (fun st => .ok (step st .makeImage)) kw data := by
  unfold makeShortcut lo_make
  cases h : construct kw.version kw.level kw.boxSize kw.border kw.mask <;> simp only [h, Except.map]

/-- `qrcode.make()` keeps the settings: the object `make_image()` compiles carries the mask, version, level, border and box
    size of the keyword arguments (`Model.construct`) and exactly the segments of `data` -/
theorem C09_source_makeShortcut_settings (g : Global) (kw : MakeKw) (data : Bytes) (s : QRState)
    (h : construct kw.version kw.level kw.boxSize kw.border kw.mask = .ok s) :
    makeShortcut g kw data = .ok (step (g, { s with dataList := addData data 20 }) .makeImage) ∧
    s.mask = kw.mask.map Int.toNat ∧ s.version = (kw.version.getD 0).toNat ∧ s.level = kw.level ∧
    s.border = kw.border.toNat ∧ s.boxSize = kw.boxSize := by
  obtain rfl := (construct_eq_ok.mp h).2
  refine ⟨?_, rfl, rfl, rfl, rfl, rfl⟩
  unfold makeShortcut
  rw [h]
  simp [step]

end SourceTieD6

/-! ### Capstones: the whole compile assembled from translated parts (`compileSrc` of QR/Proofs/CapstoneCompile.lean, its callees
    instantiated as in Props/C01.lean) satisfies the statements above.  What is translated, what is hand-assembled and which
    Model callees are left is said once, in the section comment "Capstones" of Props/C01.lean. -/
section Capstone
open QR.Gen.Code QR.CapstoneE1 QR.CapstoneE2 QR.CapstoneE4

/-- **capstone, main.py:QRCode.make -> best_fit -> util.py:create_data -> best_mask_pattern (-> makeImpl(True, i) ->
    util.py:lost_point, eight times) -> makeImpl(False, ·)**: with no mask requested, the mask recorded in and applied to the symbol
    built by the compile assembled from the translated source is exactly the mask ISO 7.8.3 selects, computed by the Spec from
    that symbol alone (`Spec.chooseMask`: re-mask the data region with each of the eight patterns, format / version information
    and dark module light, four penalty rules, lowest score, lowest number on ties).  `S` is any Boolean view of the matrix.
    From `compileSrc_eq_refined` and `C09_chooseMask`. -/
theorem C09_source_capstone_chooseMask (find_bytes : List Nat → R Nat) (hfb : ∀ a, find_bytes [a] = alphaFind a)
    (cfg : Cfg) (hcfg : cfg.Valid) (l : Spec.Level) (hl : cfg.level = l.indicator)
    (segs : List Seg) (hv : ∀ s ∈ segs, s.Valid) (hm : cfg.mask = none) (v m : Nat) (M : Mat)
    (h : compileSrc (bestFitSrc modeSizesSrc (segsBitsSrc (writeBufSrc find_bytes)) Gen.BIT_LIMIT_TABLE bisectLeft checkVersionSrc 4)
        (createDataSrc (segsBitsBufSrc find_bytes) (ecOfBlockSrc rsPolyFor polyMk polyMod)) (makeImplSrc bchDigitSrc) lostPointSrc cfg segs
      = .ok (v, m, M))
    (S : Spec.Sym) (hn : S.n = M.size) (hS : ∀ r c, S.get r c = (M.get r c).getD false) :
    Spec.chooseMask S v m = m := by
  rw [compileSrc_eq_refined find_bytes hfb cfg (hl ▸ l.indicator_lt)] at h
  exact C09_chooseMask cfg hcfg l hl segs hv hm v m M h S hn hS

/-- **capstone, same chain without best_mask_pattern: explicit choice** - with `mask_pattern = m` the assembled compile reports
    `m` and its symbol is the one the source-assembled `makeImpl(False, m)` builds from the codewords of the source-assembled
    `create_data` (the same `m` goes to the format information and to `map_data`, by `C05_source_capstone_info` /
    `C05_source_capstone_map_data`); no hypothesis on the configuration beyond the level being one of the four indicators.
    From `compileSrc_eq_refined`, `C09_explicit`, `createDataSrc_eq_refined`, `makeImplSrc_eq_refined`. -/
theorem C09_source_capstone_explicit (find_bytes : List Nat → R Nat) (hfb : ∀ a, find_bytes [a] = alphaFind a)
    (cfg : Cfg) (hl : cfg.level < 4) (segs : List Seg) (m : Nat) (hm : cfg.mask = some m)
    (v k : Nat) (M : Mat)
    (h : compileSrc (bestFitSrc modeSizesSrc (segsBitsSrc (writeBufSrc find_bytes)) Gen.BIT_LIMIT_TABLE bisectLeft checkVersionSrc 4)
        (createDataSrc (segsBitsBufSrc find_bytes) (ecOfBlockSrc rsPolyFor polyMk polyMod)) (makeImplSrc bchDigitSrc) lostPointSrc cfg segs
      = .ok (v, k, M)) :
    k = m ∧ ∃ data, createDataSrc (segsBitsBufSrc find_bytes) (ecOfBlockSrc rsPolyFor polyMk polyMod) v cfg.level segs = .ok data ∧
      makeImplSrc bchDigitSrc v cfg.level false m data = .ok M := by
  rw [compileSrc_eq_refined find_bytes hfb cfg hl] at h
  have h1 : 1 ≤ v := compile_ok_version_pos h
  obtain ⟨hk, data, hd, hM⟩ := C09_explicit cfg segs m hm v k M h
  exact ⟨hk, data, (createDataSrc_eq_refined find_bytes hfb v cfg.level segs h1).trans hd,
    (makeImplSrc_eq_refined v cfg.level false m data h1).trans hM⟩

/-- **capstone, main.py:QRCode.best_mask_pattern over makeImpl(True, i) and util.py:lost_point (all source-assembled)**: when the
    eight trial symbols build (`Ms i`, by the source-assembled `makeImpl(True, i)`), the assembled loop returns the
    lowest-numbered mask whose trial symbol has the least ISO penalty (`Spec.penalty`, the four rules of ISO 7.8.3.1, on the
    Boolean reading of the trial matrix).  From `bestMaskSrc_eq` (`C09_source_loop`), `makeImplSrc_eq_refined`,
    `C08_source_lost_point_src`, `C09_auto` and `C08_lost_point`. -/
theorem C09_source_capstone_auto (v l : Nat) (h1 : 1 ≤ v) (hl : l < 4) (data : List Nat) (Ms : Nat → Mat)
    (h : ∀ i, i < 8 → makeImplSrc bchDigitSrc v l true i data = .ok (Ms i)) :
    bestMaskSrc (fun t i => makeImplSrc bchDigitSrc v l t i data) lostPointSrc
      = .ok (Spec.argminFirst 8 fun i => Spec.penalty (Ms i).toBMat) := by
  have h' : ∀ i, i < 8 → makeImpl v l true i data = .ok (Ms i) := fun i hi => by
    rw [← makeImplSrc_eq_refined v l true i data h1]; exact h i hi
  rw [bestMaskSrc_congr _ (fun t i => makeImpl v l t i data) _ (fun m => lostPoint m.toBMat)
    (fun i _ => makeImplSrc_eq_refined v l true i data h1)
    (fun i m _ hm => lostPointSrc_eq m _ (makeImpl_shape h1 hl hm)), bestMaskSrc_eq, C09_auto v l data Ms h']
  refine congrArg Except.ok (Proofs.argminFirst_congr 8 _ _ fun i hi => ?_)
  have hs := Mat.toBMat_shape (makeImpl_shape h1 hl (h' i hi))
  exact Proofs.Penalty.lostPoint_eq_penalty _ _ (by unfold Spec.size; omega) hs.1 hs.2

set_option maxRecDepth 100000 in
/-- `C09_source_capstone_explicit` at a concrete input, evaluated by the kernel on the assembled translated definitions: "hi" at
    version 1-M with `mask_pattern = 3` - the assembled compile reports mask 3, version 1, a 21 x 21 symbol with the dark
    module set.  (The automatic choice needs eight `lost_point` evaluations, about a minute in the kernel: not repeated here.) -/
example : (match compileSrc (bestFitSrc modeSizesSrc (segsBitsSrc (writeBufSrc findBytes1)) Gen.BIT_LIMIT_TABLE bisectLeft checkVersionSrc 4)
        (createDataSrc (segsBitsBufSrc findBytes1) (ecOfBlockSrc rsPolyFor polyMk polyMod)) (makeImplSrc bchDigitSrc) lostPointSrc
        { version := 1, level := 0, mask := some 3, fit := false } [{ mode := 4, data := [104, 105] }] with
    | .ok (v, k, M) => v == 1 && k == 3 && M.get 13 8 == some true && M.size == 21
    | _ => false) = true := by decide +kernel

end Capstone

/-- the Python functions this property's model mirrors have, in /repo's current working tree, exactly the normalised
    ASTs the model was written and validated against (fingerprints regenerated by T1 on every run) -/
theorem C09_source_fingerprints : QR.Gen.fp_C09 = QR.Pinned.fp_C09 := by decide

end QR.Props
