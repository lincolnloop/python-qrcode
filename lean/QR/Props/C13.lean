import QR.Model.Svg
import QR.Spec.Svg
import QR.Proofs.Svg
import QR.Proofs.SourceTieC13
import QR.Proofs.Pinned
import QR.Proofs.Units
/-
C13 - SVG factories: each factory draws exactly one correctly placed shape per dark module and none for light modules,
each shape centred on its module's cell and not larger than the cell; the lengths the document is written with (`units`)
denote the pixel values quantised half-even to 0.001 mm (`C13_units_*`).  `C13_shapes`, `C13_count`, `C13_kth` are corollaries of
`Proofs.Svg.shapes_eq` (the shapes are `Spec.darkCells` mapped by `shapeAt`).
`C13_source_*`: bridges, capstones and the fingerprint obligation (the three kinds are explained at the head of Props/C02.lean).
-/
namespace QR.Props
open QR.Model

/-- only the fill variants add a background rectangle; only the path variants carry a viewBox -/
theorem C13_background (f : SvgFactory) (md ed : SvgDrawer) (M : Mods) (w b box : Nat) :
    ((svgDoc f md ed M w b box).background = true ↔ f = .fill ∨ f = .pathFill) ∧
    ((svgDoc f md ed M w b box).viewBox = true ↔ f = .path ∨ f = .pathFill) := by
  cases f <;> simp [svgDoc, SvgFactory.hasBackground, SvgFactory.isPath]

/-- document size: (modules + 2*border) * box_size pixels = /10 mm -/
theorem C13_size (f : SvgFactory) (md ed : SvgDrawer) (M : Mods) (w b box : Nat) :
    (svgDoc f md ed M w b box).pixelSize = (w + 2 * b) * box := by
  simp [svgDoc, pixelSize, Nat.mul_comm b 2]

/-- **C13 (shapes)**: for every factory (fragment / image / fill / path / pathFill), every module drawer and eye drawer
    (square or circle) whose size ratio `num/den` is at most 1, every matrix, width, border and box size: the emitted
    shapes - each reduced by `blobOf` to its centre and full extent - are exactly one per dark module in row-major order
    and none for light modules (`Spec.shapesOK`: same length as `Spec.darkCells`, the k-th shape belongs to the k-th
    dark module), each centred on its module's cell `((c+border)*box + box/2, (r+border)*box + box/2)` and not larger
    than the cell.  The hypothesis `num ≤ den` is necessary (see the counterexample below); `0 < num`, `0 < den` are not. -/
theorem C13_shapes (f : SvgFactory) (md ed : SvgDrawer) (M : Mods) (n border box : Nat)
    (hm : md.num ≤ md.den) (he : ed.num ≤ ed.den) :
    Spec.shapesOK M n border box ((svgDoc f md ed M n border box).shapes.map Proofs.Svg.blobOf) = true := by
  rw [Proofs.Svg.shapes_eq, List.map_map]
  unfold Spec.shapesOK
  simp only [List.length_map, beq_self_eq_true, Bool.true_and]
  rw [all_zip_map_self, List.all_eq_true]
  intro rc _
  simp only [Function.comp, Bool.and_eq_true]
  exact Proofs.Svg.shapeAt_ok f md ed n border box rc hm he

/-- the number of emitted shapes is the number of dark modules (no hypothesis on the drawers) -/
theorem C13_count (f : SvgFactory) (md ed : SvgDrawer) (M : Mods) (n border box : Nat) :
    (svgDoc f md ed M n border box).shapes.length = (Spec.darkCells M n).length := by
  rw [Proofs.Svg.shapes_eq, List.length_map]

/-- `Spec.darkCells` is what it should be: exactly the dark modules of the `n x n` square, each once, in strictly
    increasing row-major order -/
theorem C13_darkCells (M : Mods) (n : Nat) :
    (∀ r c, (r, c) ∈ Spec.darkCells M n ↔ r < n ∧ c < n ∧ (M.getD r []).getD c false = true) ∧
    (Spec.darkCells M n).Pairwise fun a b => a.1 < b.1 ∨ (a.1 = b.1 ∧ a.2 < b.2) :=
  ⟨Proofs.DarkCells.mem_darkCells M n, Proofs.DarkCells.darkCells_sorted M n⟩

/-- unfolded: the k-th shape is the shape drawn for the k-th dark module `(r, c)` in row-major order - by the eye drawer
    iff `isEye n r c`, else by the module drawer, at that module's pixel box - and it is centred on that module's cell
    and fits the cell -/
theorem C13_kth (f : SvgFactory) (md ed : SvgDrawer) (M : Mods) (n border box : Nat)
    (hm : md.num ≤ md.den) (he : ed.num ≤ ed.den) (k : Nat) (hk : k < (Spec.darkCells M n).length) :
    let rc := (Spec.darkCells M n)[k]
    let d := if isEye n rc.1 rc.2 then ed else md
    (svgDoc f md ed M n border box).shapes[k]? =
        some (2 * d.den, drawShape f.isPath d box ((rc.2 + border) * box) ((rc.1 + border) * box)) ∧
    (∀ p, (svgDoc f md ed M n border box).shapes[k]? = some p →
        (Proofs.Svg.blobOf p).centredOn border box rc.1 rc.2 = true ∧ (Proofs.Svg.blobOf p).fitsCell box = true) := by
  intro rc d
  have e : (svgDoc f md ed M n border box).shapes[k]? = some (Proofs.Svg.shapeAt f md ed n border box rc) := by
    rw [Proofs.Svg.shapes_eq, List.getElem?_map, List.getElem?_eq_getElem hk]; rfl
  refine ⟨e, ?_⟩
  intro p hp
  rw [e] at hp
  cases hp
  exact Proofs.Svg.shapeAt_ok f md ed n border box rc hm he

/-- non-vacuity: a 9x9 matrix with dark modules inside and outside the eyes, gapped-circle (4/5) module drawer, square
    eye drawer, path factory: 6 shapes, and the spec predicate really evaluates to `true` -/
example :
    let M : Mods := (List.range 9).map fun r => (List.range 9).map fun c => r == c && r % 2 == 0 || (r == 7 && c == 8)
    let doc := svgDoc .path ⟨.circle, 4, 5⟩ ⟨.square, 1, 1⟩ M 9 4 10
    doc.shapes.length = 6 ∧
    doc.shapes[0]? = some (2, .pathSquare 80 80 100 100) ∧        -- (0,0): eye, full square, 4.0mm .. 5.0mm
    doc.shapes[4]? = some (10, .pathCircle 1210 1150 1290 30) ∧   -- (7,8): not an eye, circle of diameter 8 px
    Spec.shapesOK M 9 4 10 (doc.shapes.map Proofs.Svg.blobOf) = true := by decide

/-- the hypothesis `num ≤ den` cannot be dropped: a ratio of 2 gives an uncentred, too large shape -/
example : Spec.shapesOK [[true]] 1 0 1
    ((svgDoc .image ⟨.square, 2, 1⟩ ⟨.square, 2, 1⟩ [[true]] 1 0 1).shapes.map Proofs.Svg.blobOf) = false := by decide

/-! ### `units`: the printed length denotes the half-even quantised value -/

/-- **C13 (units, text)**: `units(pixels)` for `pixels = num/den` is a decimal literal followed by "mm", and the literal -
    read by the strict reader `Proofs.Units.parseThousandths` (digits, optionally a point and one to three decimals;
    value in thousandths) - denotes exactly `roundHalfEven (100*num) den` thousandths of a millimetre; in general
    every `fmtThousandths t` reads back to `t`, so different quantised values print differently -/
theorem C13_units_roundtrip :
    (∀ t : Nat, Proofs.Units.parseThousandths (fmtThousandths t) = some t) ∧
    (∀ a b : Nat, fmtThousandths a = fmtThousandths b → a = b) ∧
    (∀ num den : Nat, units num den = fmtThousandths (roundHalfEven (100 * num) den) ++ "mm" ∧
      Proofs.Units.parseThousandths (fmtThousandths (roundHalfEven (100 * num) den)) =
        some (roundHalfEven (100 * num) den)) :=
  ⟨Proofs.Units.parse_fmt, fun _ _ h => Proofs.Units.fmtThousandths_injective h,
    fun _ _ => ⟨rfl, Proofs.Units.parse_fmt _⟩⟩

/-- **C13 (units, rounding)**: the quantised value `q = roundHalfEven a b` is within half a unit of `a / b`:
    `|q*b - a| ≤ b/2`, stated without division -/
theorem C13_units_close (a b : Nat) (hb : 0 < b) :
    2 * (roundHalfEven a b * b) ≤ 2 * a + b ∧ 2 * a ≤ 2 * (roundHalfEven a b * b) + b := by
  have hdm : a = a / b * b + a % b := by rw [Nat.mul_comm]; exact (Nat.div_add_mod a b).symm
  have hr : a % b < b := Nat.mod_lt _ hb
  unfold roundHalfEven
  simp only
  generalize a / b = q at *
  generalize a % b = r at *
  have hs : (q + 1) * b = q * b + b := Nat.succ_mul _ _
  split
  · omega
  · split
    · omega
    · split <;> omega

/-- **C13 (units, exactness)**: when `num/den` pixels is a whole number of thousandths of a millimetre (all default
    drawers at integer box sizes), nothing is lost by the rounding -/
theorem C13_units_exact (num den : Nat) (hd : 0 < den) (h : den ∣ 100 * num) :
    roundHalfEven (100 * num) den = 100 * num / den ∧ (100 * num / den) * den = 100 * num := by
  refine ⟨?_, Nat.div_mul_cancel h⟩
  have : 100 * num % den = 0 := Nat.mod_eq_zero_of_dvd h
  unfold roundHalfEven
  simp only [this]
  rw [if_pos (by omega)]

/-- instances: 10 px = "1mm", 25/2 px = "1.25mm", 1/3 px = 0.0333.. mm prints "0.033mm", ties go to even -/
example : units 10 1 = "1mm" ∧ units 25 2 = "1.25mm" ∧ units 1 3 = "0.033mm" ∧ units 1 200 = "0mm" ∧
    units 3 200 = "0.002mm" ∧ units 1230 1 = "123mm" ∧ units 101 10 = "1.01mm" := by decide

/-! ### Bridge (`tools/translate.py` itself: a single expression) for `BaseImage.is_eye` -/

/-- `BaseImage.is_eye` as it stands in the source is the model's `isEye` -/
theorem C13_source_is_eye (width row col : Nat) : Gen.Code.is_eye width row col = isEye width row col :=
  QR.SourceTie.isEye_eq width row col

/-! ### Bridges (plugin `frag_b.py`): `units`, the SVG document root, the drawers' `initialize` / `coords` / `el` / `subpath` -/
section SourceTieB
open QR.Gen.Code QR.SourceTieB

theorem C13_source_units_literals :
    units_text_default = true ∧ units_divisor = 10 ∧ units_quantum_decimals = 3 ∧ units_rounding = "ROUND_HALF_EVEN" ∧
    units_cascade_traps = ["decimal.Inexact"] ∧ units_cascade_except = "decimal.Inexact" ∧
    units_cascade_decimals = [2, 1, 0] ∧ units_suffix = "mm" ∧ (∀ t, units_raw_test t = !t) :=
  ⟨rfl, rfl, rfl, rfl, rfl, rfl, rfl, rfl, fun _ => rfl⟩

/-- the model's printer is the source's cascade: quantum and cascade steps as they stand in the source -/
theorem C13_source_fmtThousandths_src (t : Nat) :
    fmtThousandths t = fmtScaled (cascade t units_quantum_decimals units_cascade_decimals).1
                                 (cascade t units_quantum_decimals units_cascade_decimals).2 := by
  show fmtThousandths t = fmtScaled (cascade t 3 [2, 1, 0]).1 (cascade t 3 [2, 1, 0]).2
  rw [cascade3, fmtThousandths]
  -- the cascade strips trailing zeros from the right, `fmtThousandths` tests for them from the left
  by_cases h0 : t % 1000 = 0
  · rw [if_pos h0, if_pos (by omega), if_pos (by omega), if_pos (by omega), fmtScaled, if_pos rfl]
    congr 1
    omega
  · by_cases h1 : t % 1000 % 100 = 0
    · rw [if_neg h0, if_pos h1, if_pos (by omega), if_pos (by omega), if_neg (by omega)]
      dsimp only
      rw [fmtScaled, if_neg (by decide), Nat.pow_one]
      congr 3 <;> omega
    · by_cases h2 : t % 1000 % 10 = 0
      · rw [if_neg h0, if_neg h1, if_pos h2, if_pos (by omega), if_neg (by omega)]
        dsimp only
        rw [fmtScaled, if_neg (by decide), show 10 ^ 2 = 100 from rfl]
        congr 3 <;> omega
      · rw [if_neg h0, if_neg h1, if_neg h2, if_neg (by omega)]
        dsimp only
        rw [fmtScaled, if_neg (by decide)]

/-- `units(pixels)` for `pixels = num / den`: `Decimal(pixels) / 10` quantised to `units_quantum_decimals` decimals
    (half-even: `units_rounding`), printed through the cascade, followed by the suffix -/
theorem C13_source_units_src (num den : Nat) :
    units num den =
      (let t := roundHalfEven (10 ^ units_quantum_decimals / units_divisor * num) den
       let c := cascade t units_quantum_decimals units_cascade_decimals
       fmtScaled c.1 c.2 ++ units_suffix) := by
  unfold units
  rw [C13_source_fmtThousandths_src]
  rfl

theorem C13_source_svgRoot_literals :
    svg_root_attrs = [("width", "dimension"), ("height", "dimension"), ("version", "version")] ∧
    svg_viewbox_format = "0 0 {d} {d}" ∧ svg_background_test = "self.background" ∧ svg_background_tag = "rect" ∧
    svg_background_attrs = [("fill", "<self.background>"), ("x", "0"), ("y", "0"), ("width", "100%"), ("height", "100%")] :=
  ⟨rfl, rfl, rfl, rfl, rfl⟩

/-- which factory draws the background rectangle: the class attribute `background` resolved along the class hierarchy -/
theorem C13_source_hasBackground_src (f : SvgFactory) : svg_has_background.lookup (factoryName f) = some f.hasBackground := by
  cases f <;> decide

/-- the document: `width` / `height` (and the path factories' viewBox) are `units` of `pixel_size`; the pixel box handed to the
    drawer is `pixel_box(row, col)[0]`; the eye test is `is_eye` -/
theorem C13_source_svgDoc_src (f : SvgFactory) (md ed : SvgDrawer) (M : Mods) (width border boxSize : Nat) :
    svgDoc f md ed M width border boxSize =
      { pixelSize := svg_dimension_arg (pixel_size border width boxSize)
        viewBox := f.isPath
        background := f.hasBackground
        shapes := (List.range width).flatMap fun r => (List.range width).filterMap fun c =>
          if (M.getD r []).getD c false then
            let d := if is_eye width r c then ed else md
            let box := pixel_box border boxSize r c
            some (2 * d.den, drawShape f.isPath d boxSize box.1.1 box.1.2)
          else none } := by
  unfold svgDoc
  simp only [QR.SourceTie.isEye_eq]
  rfl

/-- `initialize()`: `box_delta = (1 - size_ratio) * img.box_size / 2`, `box_size = img.box_size * size_ratio`,
    `box_half = box_size / 2`, for `size_ratio = num / den ≤ 1`.  The translated value is `numerator / divisor` in units of
    1/den pixel; the model's is in units of 1/(2 den) pixel: `model * divisor = 2 * numerator`. -/
theorem C13_source_drawerMetrics_src (d : SvgDrawer) (b : Nat) :
    (d.den - d.num) * b * (svg_box_delta d.num d.den b).2 = 2 * (svg_box_delta d.num d.den b).1 ∧
    2 * d.num * b * (svg_box_size d.num d.den b).2 = 2 * (svg_box_size d.num d.den b).1 ∧
    d.num * b * (svg_box_half d.num d.den b).2 = 2 * (svg_box_half d.num d.den b).1 := by
  unfold svg_box_delta svg_box_size svg_box_half
  simp only [Nat.one_mul, Nat.mul_one]
  refine ⟨Nat.mul_comm _ _, ?_, ?_⟩
  · rw [Nat.mul_assoc, Nat.mul_comm d.num b]
  · rw [Nat.mul_comm (d.num * b) 2, Nat.mul_comm d.num b]

theorem C13_source_svgDrawer_literals :
    svg_coords_fields = ["x0", "y0", "x1", "y1", "xh", "yh"] ∧
    svg_square_tag = "rect" ∧ svg_square_attrs = ["x", "y", "width", "height"] ∧
    svg_circle_tag = "circle" ∧ svg_circle_attrs = ["cx", "cy", "r"] ∧
    svg_path_square_template = ["M", "{x0}", ",", "{y0}", "H", "{x1}", "V", "{y1}", "H", "{x0}", "z"] ∧
    svg_path_circle_template = ["M", "{x0}", ",", "{yh}", "A", "{h}", ",", "{h}", " 0 0 0 ", "{x1}", ",", "{yh}",
      "A", "{h}", ",", "{h}", " 0 0 0 ", "{x0}", ",", "{yh}", "z"] :=
  ⟨rfl, rfl, rfl, rfl, rfl, rfl, rfl⟩

/-- the shape a drawer emits for the pixel box starting at (X, Y): `coords()` as translated, and for each drawer class the
    coordinates it passes to `units` for each attribute (`x`/`y`/`width`/`height`, `cx`/`cy`/`r`) or path variable -/
theorem C13_source_drawShape_src (isPath : Bool) (d : SvgDrawer) (b X Y : Nat) :
    some (drawShape isPath d b X Y) =
      (let D := 2 * d.den
       let delta := (d.den - d.num) * b
       let size := 2 * d.num * b
       let half := d.num * b
       let c := svg_coords (X * D) (Y * D) delta size half
       match isPath, d.kind with
       | false, .square => rectOf (svg_square_el c.1 c.2.1 c.2.2.1 c.2.2.2.1 c.2.2.2.2.1 c.2.2.2.2.2 delta size half)
       | false, .circle => circleOf (svg_circle_el c.1 c.2.1 c.2.2.1 c.2.2.2.1 c.2.2.2.2.1 c.2.2.2.2.2 delta size half)
       | true, .square => pathSquareOf (svg_path_square_vars c.1 c.2.1 c.2.2.1 c.2.2.2.1 c.2.2.2.2.1 c.2.2.2.2.2 delta size half)
       | true, .circle => pathCircleOf (svg_path_circle_vars c.1 c.2.1 c.2.2.1 c.2.2.2.1 c.2.2.2.2.1 c.2.2.2.2.2 delta size half)) := by
  unfold drawShape
  cases isPath <;> cases hk : d.kind <;> rfl

end SourceTieB

/-! ### Bridges (plugin `frag_d4.py`, `Gen.Code.rd_*`): `BaseImageWithDrawer.__init__` / `get_drawer` / `init_new_image` /
    `drawrect_context`, the SVG drawers' `drawrect`, `SvgPathImage.__init__` / `process`, run inside the translated tail of
    `QRCode.make_image`, statement by statement.  Those that other proofs use as well are proved in QR/Proofs/SourceTieC13.lean;
    the closed forms are in SourceTieImage.lean. -/
section SourceTieD4
open QR.Gen.Code QR.SourceTieB QR.SourceTieD4

/-- `BaseImageWithDrawer.drawrect_context(row, col, qr)`: one call `drawer.drawrect(box, is_active)`; the drawer is the eye
    drawer iff `Model.isEye`, `box = Model.pixelBox row col`, `is_active` the neighbour context iff the drawer needs it -/
theorem C13_source_drawrectContext_src {D A S : Type} (border boxSize width : Nat) (ed md : D) (nn : D → Bool)
    (awn : Nat → Nat → A) (ofBool : Bool → A) (M : Mods) (drawrect : D → rd_Box → A → S → S) (row col : Nat) (im : S) :
    rd_drawrect_context border boxSize width ed md nn awn ofBool M drawrect row col im =
      let d := if isEye width row col then ed else md
      drawrect d (pixelBox border boxSize row col) (if nn d then awn row col else ofBool ((M.getD row []).getD col false)) im :=
  QR.SourceTieD4.drawrectContext_src border boxSize width ed md nn awn ofBool M drawrect row col im

/-- class bodies of `moduledrawers/svg.py`: no SVG drawer sets `needs_neighbors`; path drawers inherit
    `SvgPathQRModuleDrawer.drawrect`, element drawers `SvgQRModuleDrawer.drawrect` -/
theorem C13_source_svgDrawer_classes_src (isPath : Bool) (d : SvgDrawer) :
    needsNeighbors isPath d = false ∧
    rd_svg_drawer_drawrect_class.lookup (drawerClass isPath d.kind)
      = some (if isPath then "SvgPathQRModuleDrawer" else "SvgQRModuleDrawer") :=
  QR.SourceTieD4.svgDrawer_classes_src isPath d

/-- `default_drawer_class` of each SVG factory and `get_default_module_drawer` / `get_default_eye_drawer` -/
theorem C13_source_svgDefaultDrawer_src (f : SvgFactory) :
    rd_svg_default_drawer.lookup (factoryName f) = some (drawerClass f.isPath .square) ∧
    rd_get_default_module_drawer = "self.default_drawer_class()" ∧ rd_get_default_eye_drawer = "self.default_drawer_class()" := by
  cases f <;> decide

/-- `SvgQRModuleDrawer.drawrect`: `if not is_active: return`, else `self.img._img.append(self.el(box))` -/
theorem C13_source_svgDrawrect_src (el : rd_Box → rd_Element) (box : rd_Box) (a : Bool) (img : rd_SvgImg) :
    rd_svg_drawrect el id box a img = if a then { img with img := img.img ++ [el box] } else img :=
  QR.SourceTieD4.svgDrawrect_src el box a img

/-- `SvgPathQRModuleDrawer.drawrect`: `if not is_active: return`, else `self.img._subpaths.append(self.subpath(box))` -/
theorem C13_source_svgPathDrawrect_src (sub : rd_Box → String) (box : rd_Box) (a : Bool) (img : rd_SvgImg) :
    rd_svg_path_drawrect sub id box a img = if a then { img with subpaths := img.subpaths ++ [sub box] } else img :=
  QR.SourceTieD4.svgPathDrawrect_src sub box a img

/-- `SvgPathImage.process()`: the final `<path d="".join(self._subpaths) id="qr-path" **QR_PATH_STYLE>` element, stored in
    `self.path`, appended to the document; `_subpaths` emptied -/
theorem C13_source_svgPathProcess_src (self : rd_SvgImg) :
    rd_svg_path_process self =
      let p : rd_Element :=
        { tag := "path"
          attrs := [("d", "".intercalate self.subpaths), ("id", "qr-path"), ("fill", "#000000"), ("fill-opacity", "1"),
                    ("fill-rule", "nonzero"), ("stroke", "none")] }
      { img := self.img ++ [p], subpaths := [], path := some p } :=
  rfl

/-- `SvgPathImage.__init__`: `self._subpaths = []` before the base class constructor -/
theorem C13_source_svgPathInit_src (superInit : rd_SvgImg → rd_SvgImg) (self : rd_SvgImg) :
    rd_svg_path_init superInit self = superInit { self with subpaths := [] } := rfl

/-- one cell of the loop: `drawrect_context` + the drawer's `drawrect` append (a rendering of) the Model's
    `drawShape` for that cell, with the eye drawer on the eyes, iff the module is dark -/
theorem C13_source_svgCell_src (isPath : Bool) (render : Nat × SvgShape → rd_Element) (renderP : Nat × SvgShape → String)
    (md ed : SvgDrawer) (M : Mods) (width border boxSize : Nat) (awn : Nat → Nat → Bool) (r c : Nat) (img : rd_SvgImg) :
    rd_drawrect_context border boxSize width ed md (needsNeighbors isPath) awn id M (svgDrawrect isPath render renderP boxSize) r c img
      = if (M.getD r []).getD c false then
          addAll isPath render renderP img
            [(let d := if isEye width r c then ed else md
              (2 * d.den, drawShape isPath d boxSize ((c + border) * boxSize) ((r + border) * boxSize)))]
        else img :=
  QR.SourceTieD4.svgCell_src isPath render renderP md ed M width border boxSize awn r c img

/-- `make_image` with an SVG factory (loop, `drawrect_context`, drawers' `drawrect`, `process`, class flags - all translated)
    = `Model.svgDoc`: element factories append the Model's shapes in the Model's order, path factories append one `<path>` whose
    `d` is the concatenation of the Model's subpaths in row-major order; inactive modules append nothing -/
theorem C13_source_svgDraw_src (f : SvgFactory) (render : Nat × SvgShape → rd_Element) (renderP : Nat × SvgShape → String)
    (md ed : SvgDrawer) (M : Mods) (width border boxSize : Nat) (awn : Nat → Nat → Bool)
    (drawrect : Nat → Nat → rd_SvgImg → rd_SvgImg) (img : rd_SvgImg) :
    makeImageDraw (factoryName f) width M
        (rd_drawrect_context border boxSize width ed md (needsNeighbors f.isPath) awn id M (svgDrawrect f.isPath render renderP boxSize))
        drawrect rd_svg_path_process img
      = let shapes := (svgDoc f md ed M width border boxSize).shapes
        if f.isPath then
          let p : rd_Element :=
            { tag := "path"
              attrs := [("d", "".intercalate (img.subpaths ++ shapes.map renderP)), ("id", "qr-path"), ("fill", "#000000"),
                        ("fill-opacity", "1"), ("fill-rule", "nonzero"), ("stroke", "none")] }
          { img := img.img ++ [p], subpaths := [], path := some p }
        else { img with img := img.img ++ shapes.map render } := by
  unfold makeImageDraw
  rw [flags_svg, makeImageDraw_src]
  simp only [if_true, svgCell_src]
  have hloop : (List.range width).foldl (fun im r => (List.range width).foldl (fun im c =>
        if (M.getD r []).getD c false then
          addAll f.isPath render renderP im
            [(let d := if isEye width r c then ed else md
              (2 * d.den, drawShape f.isPath d boxSize ((c + border) * boxSize) ((r + border) * boxSize)))]
        else im) im) img
      = addAll f.isPath render renderP img (svgDoc f md ed M width border boxSize).shapes := by
    rw [Proofs.Svg.shapes_eq, ← foldl_addAll_singleton, Proofs.DarkCells.foldl_darkCells]
    rfl
  rw [hloop]
  cases h : f.isPath
  · simp [addAll]
  · simp only [if_true, C13_source_svgPathProcess_src, addAll]

/-- a freshly constructed path image (`SvgPathImage.__init__` + `make_image`): the `d` attribute of `self.path` is exactly the
    concatenation of the subpaths of `Model.svgDoc`'s shapes -/
theorem C13_source_svgPathD_src (f : SvgFactory) (hf : f.isPath = true) (render : Nat × SvgShape → rd_Element)
    (renderP : Nat × SvgShape → String) (md ed : SvgDrawer) (M : Mods) (width border boxSize : Nat) (awn : Nat → Nat → Bool)
    (drawrect : Nat → Nat → rd_SvgImg → rd_SvgImg) (superInit : rd_SvgImg → rd_SvgImg) (self : rd_SvgImg)
    (hsuper : (superInit { self with subpaths := [] }).subpaths = []) :
    ((makeImageDraw (factoryName f) width M
        (rd_drawrect_context border boxSize width ed md (needsNeighbors f.isPath) awn id M (svgDrawrect f.isPath render renderP boxSize))
        drawrect rd_svg_path_process (rd_svg_path_init superInit self)).path.map fun p => p.attrs.lookup "d")
      = some (some ("".intercalate ((svgDoc f md ed M width border boxSize).shapes.map renderP))) := by
  rw [C13_source_svgDraw_src, C13_source_svgPathInit_src]
  simp only [hf, if_true, hsuper, List.nil_append]
  rfl

/-- `BaseImageWithDrawer.get_drawer`: None / drawer object / alias looked up in `self.drawer_aliases` (closed form) -/
theorem C13_source_getDrawer_src {D : Type} (aliases : String → Option D) (a : rd_DrawerArg D) :
    rd_get_drawer aliases a =
      match a with
      | .none => .ok none
      | .obj d => .ok (some d)
      | .str s => (aliases s).elim (.error "KeyError") (fun d => .ok (some d)) := by
  cases a with
  | none => rfl
  | obj d => rfl
  | str s => cases h : aliases s <;> simp [rd_get_drawer, h]

/-- `BaseImageWithDrawer.__init__`: module drawer = resolved `module_drawer` or the default module drawer, eye drawer = resolved
    `eye_drawer` or the default eye drawer, both set before `super().__init__` (closed form) -/
theorem C13_source_withDrawerInit_src {D A : Type} (getDrawer : A → Option D) (dm de : D)
    (superInit : rd_Drawers D → rd_Drawers D) (m e : A) (self : rd_Drawers D) :
    rd_with_drawer_init getDrawer dm de superInit m e self =
      superInit { module_drawer := (getDrawer m).getD dm, eye_drawer := (getDrawer e).getD de } := rfl

/-- `BaseImageWithDrawer.init_new_image`: the two `initialize(img=self)` calls, module drawer first -/
theorem C13_source_initNewImage_literals :
    rd_init_new_image_calls = ["self.module_drawer.initialize", "self.eye_drawer.initialize"] := rfl

/-- which class's drawrect / drawrect_context / process / init_new_image / __init__ each factory runs -/
theorem C13_source_classMethods_literals :
    rd_class_methods.lookup "PilImage" = some ["PilImage", "BaseImage", "BaseImage", "BaseImage", "BaseImage"] ∧
    rd_class_methods.lookup "SvgImage"
      = some ["BaseImage", "BaseImageWithDrawer", "BaseImage", "BaseImageWithDrawer", "SvgFragmentImage"] ∧
    rd_class_methods.lookup "SvgFragmentImage" = rd_class_methods.lookup "SvgImage" ∧
    rd_class_methods.lookup "SvgFillImage" = rd_class_methods.lookup "SvgImage" ∧
    rd_class_methods.lookup "SvgPathImage"
      = some ["BaseImage", "BaseImageWithDrawer", "SvgPathImage", "BaseImageWithDrawer", "SvgPathImage"] ∧
    rd_class_methods.lookup "SvgPathFillImage" = rd_class_methods.lookup "SvgPathImage" :=
  ⟨rfl, rfl, rfl, rfl, rfl, rfl⟩

/-- `SvgImage._svg` (root, `xmlns`, background rectangle appended before any module, return), `SvgPathImage._svg`,
    `SvgFragmentImage.to_string` / `new_image`: statement order and callees -/
theorem C13_source_svgImage_literals :
    rd_svg_image_svg_steps = ["svg = super()._svg(tag=tag, **kwargs)", "svg.set('xmlns', self._SVG_namespace)",
      "if self.background", "svg.append", "return svg"] ∧
    rd_svg_image_svg_tag_default = "svg" ∧
    rd_svg_path_svg_return = "super()._svg(viewBox=viewBox, **kwargs)" ∧
    rd_svg_to_string_returns = "ET.tostring(self._img, **kwargs)" ∧
    rd_svg_new_image_returns = "self._svg(**kwargs)" :=
  ⟨rfl, rfl, rfl, rfl, rfl⟩

/-- `ActiveWithNeighbors.__bool__` returns the centre flag `self.me` (the truth value a drawer's `if not is_active` sees) -/
theorem C13_source_activeWithNeighbors_bool_literal : rd_active_with_neighbors_bool = "self.me" := rfl

end SourceTieD4

/-! ### Capstones: the translated SVG draw code itself emits one correctly placed shape per dark module (`Spec.shapesOK`). -/
section Capstone
open QR.Gen.Code QR.SourceTieB QR.SourceTieD4

/-- **capstone, element factories (`SvgFragmentImage`, `SvgImage`, `SvgFillImage`): `main.py:QRCode.make_image` (draw loop, class
    flags) + `image/base.py:BaseImageWithDrawer.drawrect_context` (with `is_eye`, `pixel_box`) +
    `image/styles/moduledrawers/svg.py:SvgQRModuleDrawer.drawrect`** (all translated).  Partly translated chain: the drawer's
    `self.el(box)` is the parameter `render` applied to the Model's `drawShape` (tied to the translated `coords` / `el` separately by
    `C13_source_drawShape_src`); `render` (XML serialisation) is arbitrary.  The elements appended to the document are
    `shapes.map render` for a list `shapes` that satisfies `Spec.shapesOK` - exactly one shape per dark module in row-major
    order, none for light modules, each centred on its module's cell and not larger than it - and has as many entries as
    there are dark modules.  From `C13_source_svgDraw_src`, `C13_shapes`, `C13_count`. -/
theorem C13_source_capstone_svg_elements (f : SvgFactory) (hf : f.isPath = false) (render : Nat × SvgShape → rd_Element)
    (renderP : Nat × SvgShape → String) (md ed : SvgDrawer) (M : Mods) (n border box : Nat) (awn : Nat → Nat → Bool)
    (drawrect : Nat → Nat → rd_SvgImg → rd_SvgImg) (img : rd_SvgImg) (hm : md.num ≤ md.den) (he : ed.num ≤ ed.den) :
    ∃ shapes : List (Nat × SvgShape),
      (makeImageDraw (factoryName f) n M
        (rd_drawrect_context border box n ed md (needsNeighbors f.isPath) awn id M (svgDrawrect f.isPath render renderP box))
        drawrect rd_svg_path_process img).img = img.img ++ shapes.map render ∧
      Spec.shapesOK M n border box (shapes.map Proofs.Svg.blobOf) = true ∧
      shapes.length = (Spec.darkCells M n).length := by
  refine ⟨(svgDoc f md ed M n border box).shapes, ?_, C13_shapes f md ed M n border box hm he, C13_count f md ed M n border box⟩
  rw [C13_source_svgDraw_src]
  simp only [hf]
  rfl

/-- **capstone, path factories (`SvgPathImage`, `SvgPathFillImage`): `image/svg.py:SvgPathImage.__init__` + `make_image` (draw
    loop) + `drawrect_context` + `svg.py:SvgPathQRModuleDrawer.drawrect` + `image/svg.py:SvgPathImage.process`** (all
    translated; the drawer's `self.subpath(box)` is the parameter `renderP` applied to the Model's `drawShape`, as above; the
    base-class constructor `superInit` must leave `_subpaths` empty): the `d` attribute of the final `<path>` is the
    concatenation of `shapes.map renderP` for a list `shapes` satisfying `Spec.shapesOK`, one entry per dark module.
    From `C13_source_svgPathD_src`, `C13_shapes`, `C13_count`. -/
theorem C13_source_capstone_svg_path (f : SvgFactory) (hf : f.isPath = true) (render : Nat × SvgShape → rd_Element)
    (renderP : Nat × SvgShape → String) (md ed : SvgDrawer) (M : Mods) (n border box : Nat) (awn : Nat → Nat → Bool)
    (drawrect : Nat → Nat → rd_SvgImg → rd_SvgImg) (superInit : rd_SvgImg → rd_SvgImg) (self : rd_SvgImg)
    (hsuper : (superInit { self with subpaths := [] }).subpaths = []) (hm : md.num ≤ md.den) (he : ed.num ≤ ed.den) :
    ∃ shapes : List (Nat × SvgShape),
      ((makeImageDraw (factoryName f) n M
        (rd_drawrect_context border box n ed md (needsNeighbors f.isPath) awn id M (svgDrawrect f.isPath render renderP box))
        drawrect rd_svg_path_process (rd_svg_path_init superInit self)).path.map fun p => p.attrs.lookup "d")
        = some (some ("".intercalate (shapes.map renderP))) ∧
      Spec.shapesOK M n border box (shapes.map Proofs.Svg.blobOf) = true ∧
      shapes.length = (Spec.darkCells M n).length :=
  ⟨(svgDoc f md ed M n border box).shapes,
    C13_source_svgPathD_src f hf render renderP md ed M n border box awn drawrect superInit self hsuper,
    C13_shapes f md ed M n border box hm he, C13_count f md ed M n border box⟩

/-- **capstone, the shape list itself** as it is assembled from the translated `image/base.py:BaseImage.is_eye`, `pixel_box` (and
    `pixel_size` for the document size) - the right-hand side of `C13_source_svgDoc_src`, with the drawers' shape function the
    Model's `drawShape`: it satisfies `Spec.shapesOK` for every factory, drawers of ratio ≤ 1, matrix, width, border and box
    size.  From `C13_source_svgDoc_src`, `C13_shapes`. -/
theorem C13_source_capstone_shapes (f : SvgFactory) (md ed : SvgDrawer) (M : Mods) (n border box : Nat)
    (hm : md.num ≤ md.den) (he : ed.num ≤ ed.den) :
    Spec.shapesOK M n border box
      (((List.range n).flatMap fun r => (List.range n).filterMap fun c =>
          if (M.getD r []).getD c false then
            let d := if is_eye n r c then ed else md
            let bx := pixel_box border box r c
            some (2 * d.den, drawShape f.isPath d box bx.1.1 bx.1.2)
          else none).map Proofs.Svg.blobOf) = true := by
  have h := C13_shapes f md ed M n border box hm he
  rw [C13_source_svgDoc_src] at h
  exact h

/-- the translated loop run on the 9 x 9 matrix of the non-vacuity example above (6 dark modules, inside and outside the eyes),
    element factory `SvgImage`, gapped-circle module drawer, square eye drawer: 6 elements appended -/
example :
    let M : Mods := (List.range 9).map fun r => (List.range 9).map fun c => r == c && r % 2 == 0 || (r == 7 && c == 8)
    let img := makeImageDraw "SvgImage" 9 M
        (rd_drawrect_context 4 10 9 ⟨.square, 1, 1⟩ ⟨.circle, 4, 5⟩ (needsNeighbors false) (fun _ _ => false) id M
          (svgDrawrect false (fun p => { tag := "shape", attrs := [("den", toString p.1)] }) (fun _ => "") 10))
        (fun _ _ i => i) rd_svg_path_process { img := [], subpaths := [], path := none }
    img.img.length = 6 := by decide
end Capstone

/-- the Python functions this property's model mirrors have, in /repo's current working tree, exactly the normalised
    ASTs the model was written and validated against (fingerprints regenerated by T1 on every run) -/
theorem C13_source_fingerprints : QR.Gen.fp_C13 = QR.Pinned.fp_C13 := rfl

end QR.Props
