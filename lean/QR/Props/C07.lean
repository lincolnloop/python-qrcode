import QR.Proofs.Fit
import QR.Proofs.Pinned
import QR.Proofs.SourceTieC07
/-
C07 - automatic fitting picks the smallest adequate version; capacities match ISO.
`Model.bestFit` mirrors QRCode.best_fit: stream length with the count widths of the class of `start`, `bisect_left` on
BIT_LIMIT_TABLE from `start`, re-fit recursion when the version class changes.  `Spec.fits v l cs` is the closed-form
stream length with version v's own widths against 8 x ISO data codewords.  Unbounded in the segment list.
`C07_minimal`, `C07_eq_minVersion`, `C07_overflow_iff`, `C07_error_only_overflow` are read off `Proofs.bestFit_char` (QR/Proofs/Fit.lean).
`C07_source_*`: bridges, capstones and the fingerprint obligation (the three kinds are explained at the head of Props/C02.lean).
-/
namespace QR.Props
open QR.Model

/-- **C07 (main)**: the fitted version is adequate, not below the start, at most 40, and every smaller admissible
    version is inadequate -/
theorem C07_minimal (start : Nat) (hs : start ≤ 40) (l : Spec.Level) (segs : List Seg) (ps : List Spec.PSeg)
    (hv : ∀ s ∈ segs, s.Valid) (hp : toPSegs segs = some ps) (v : Nat)
    (h : bestFit 4 start l.indicator segs = .ok v) :
    max start 1 ≤ v ∧ v ≤ 40 ∧ Spec.fits v l (segCounts ps) = true ∧
      ∀ u, max start 1 ≤ u → u < v → Spec.fits u l (segCounts ps) = false :=
  R.ok_of_char (QR.Proofs.bestFit_char start hs l hv hp) h

/-- `best_fit` = the Spec's minimal-version function, including the overflow case -/
theorem C07_eq_minVersion (start : Nat) (hs : start ≤ 40) (l : Spec.Level) (segs : List Seg) (ps : List Spec.PSeg)
    (hv : ∀ s ∈ segs, s.Valid) (hp : toPSegs segs = some ps) :
    bestFit 4 start l.indicator segs =
      (match Spec.minVersion start l (segCounts ps) with
       | some v => .ok v
       | none => .error .dataOverflow) := by
  rcases QR.Proofs.bestFit_char start hs l hv hp with ⟨w, hw, hmin⟩ | ⟨he, hno⟩
  · rw [QR.Proofs.minVersion_eq_some start l _ w hmin, hw]
  · rw [QR.Proofs.minVersion_eq_none start l _ hno, he]

/-- DataOverflowError exactly when no version from the start up to 40 holds the stream; no other error (shared with C03) -/
theorem C07_overflow_iff (start : Nat) (hs : start ≤ 40) (l : Spec.Level) (segs : List Seg) (ps : List Spec.PSeg)
    (hv : ∀ s ∈ segs, s.Valid) (hp : toPSegs segs = some ps) :
    bestFit 4 start l.indicator segs = .error .dataOverflow ↔
      ∀ u, max start 1 ≤ u → u ≤ 40 → Spec.fits u l (segCounts ps) = false :=
  R.error_iff_of_char (QR.Proofs.bestFit_char start hs l hv hp) fun w ⟨m1, m2, m3, _⟩ hno =>
    Bool.noConfusion (m3.symm.trans (hno w m1 m2))

theorem C07_error_only_overflow (start : Nat) (hs : start ≤ 40) (l : Spec.Level) (segs : List Seg) (ps : List Spec.PSeg)
    (hv : ∀ s ∈ segs, s.Valid) (hp : toPSegs segs = some ps) (e : Err)
    (h : bestFit 4 start l.indicator segs = .error e) : e = .dataOverflow :=
  (R.error_of_char (QR.Proofs.bestFit_char start hs l hv hp) h).1

/-- `bisect_left(a, x, lo)` on a sorted list returns the least index ≥ lo whose entry is ≥ x -/
theorem C07_bisect (a : List Nat) (x : Nat) (hs : ∀ i j, i ≤ j → j < a.length → a.getD i 0 ≤ a.getD j 0)
    (fuel lo hi : Nat) (h1 : lo ≤ hi) (h2 : hi ≤ a.length) (h3 : hi - lo ≤ fuel) :
    lo ≤ bisectLeft a x fuel lo hi ∧ bisectLeft a x fuel lo hi ≤ hi ∧
      (∀ i, lo ≤ i → i < bisectLeft a x fuel lo hi → a.getD i 0 < x) ∧
      (∀ i, bisectLeft a x fuel lo hi ≤ i → i < hi → x ≤ a.getD i 0) :=
  QR.Proofs.bisectLeft_spec a x hs fuel lo hi h1 h2 h3

/-- the table the bisect runs on is 8 x ISO data codewords for all 160 pairs (regenerated from the source each run) -/
theorem C07_capacity_rows : ∀ l ∈ allLevels,
    ∃ row, Gen.BIT_LIMIT_TABLE[l.indicator]? = some row ∧ row.length = 41 ∧ row[0]? = some 0 ∧
      ∀ v, v < 40 → row[v + 1]? = some (Spec.capacityBits (v + 1) l) := C07_capacity_table

theorem C07_capacity_increasing : ∀ l ∈ allLevels, ∀ v, v < 39 →
    Spec.capacityBits (v + 1) l < Spec.capacityBits (v + 2) l := C07_capacity_monotone

/-! ### Bridges (plugins `frag_a.py`, `frag_b.py`): `BIT_LIMIT_TABLE` and `QRCode.best_fit`; `bestFit_src` is proved in
    QR/Proofs/SourceTieC07.lean. -/
section SourceTieAB
open QR.Gen.Code QR.SourceTieA QR.SourceTieB

/-- `_data_count(block) = block.data_count`: the second field of `RSBlock(total_count, data_count)` -/
theorem C07_source_data_count_src (total data : Nat) : data_count_proj total data = data :=
  rfl

theorem C07_source_bit_limit_literals : bit_limit_summand = "_data_count" ∧
    bit_limit_blocks = ("base.rs_blocks", ["version", "level"]) :=
  ⟨rfl, rfl⟩

/-- **BIT_LIMIT_TABLE**: the table dumped from the running library (`Gen.BIT_LIMIT_TABLE`, the one `Model.bestFit`
    bisects) is exactly the translated comprehension evaluated with `Model.rsBlocks`:
    `[row(ec) for ec in range(4)]`. -/
theorem C07_source_bitLimitTable_src :
    (List.range' bit_limit_level_range.1 (bit_limit_level_range.2 - bit_limit_level_range.1)).mapM bitLimitRow
      = .ok Gen.BIT_LIMIT_TABLE :=
  R.eq_ok_of_toOption (by decide +kernel)

/-- `Model.dataBits` computes `bit_limit` as `sum(block.data_count * 8)`; the table entry is `8 * sum(data_count)` -/
theorem C07_source_bit_limit_entry_src (bs : List (Nat × Nat)) :
    (bs.map fun b => b.2 * 8).sum = bit_limit_entry ((bs.map fun b => data_count_proj b.1 b.2).sum) := by
  unfold bit_limit_entry
  induction bs with
  | nil => rfl
  | cons b t ih =>
    simp only [List.map_cons, List.sum_cons, ih, data_count_proj]
    omega

/-- the literals the model relies on: which functions are called, on what -/
theorem C07_source_bestFit_literals :
    best_fit_check_func = "util.check_version" ∧ best_fit_sizes_func = "util.mode_sizes_for_version" ∧
    best_fit_buffer_init = "util.BitBuffer()" ∧ best_fit_loop_iter = "self.data_list" ∧
    best_fit_write_call = "data.write(buffer)" ∧ best_fit_bisect_func = "bisect.bisect_left" ∧
    best_fit_bisect_table = "util.BIT_LIMIT_TABLE" ∧ best_fit_overflow_exc = "exceptions.DataOverflowError()" ∧
    best_fit_return = "self.version" :=
  ⟨rfl, rfl, rfl, rfl, rfl, rfl, rfl, rfl, rfl⟩

/-- the accumulation loop `buffer.put(data.mode, 4); buffer.put(len(data), mode_sizes[data.mode]); data.write(buffer)`:
    one step of `segsBits`, with both `put`s (value, width) and the looked-up key taken from the source -/
theorem C07_source_segsBits_src (width : Nat → R Nat) (s : Seg) (rest : List Seg) :
    segsBits width (s :: rest) = (do
      let w ← width (best_fit_put_len_key s.mode s.data.length)
      let d ← segWrite s
      let tl ← segsBits width rest
      pure (bitsBE (best_fit_put_mode s.mode s.data.length).1 (best_fit_put_mode s.mode s.data.length).2
            ++ bitsBE (best_fit_put_len s.mode s.data.length w).1 (best_fit_put_len s.mode s.data.length w).2
            ++ d ++ tl)) :=
  rfl

/-- `best_fit(start)`: every statement of the source, in order -/
theorem C07_source_bestFit_src (fuel start level : Nat) (segs : List Seg) :
    bestFit (fuel + 1) start level segs = (do
      let start := best_fit_start (optStart start)
      if check_version_bad (best_fit_check_arg start) then .error .valueError
      else do
        let sizes := modeSizes (best_fit_sizes_arg start)
        let buffer ← segsBits (fun m => dictGet sizes m) segs
        let row ← idx Gen.BIT_LIMIT_TABLE (best_fit_bisect_row level)
        let version := bisectLeft row (best_fit_bisect_x start buffer.length) (row.length + 1)
                          (best_fit_bisect_lo start buffer.length) row.length
        if best_fit_overflow version then .error .dataOverflow
        else do
          let stored := best_fit_store version
          checkVersion stored          -- the `version` setter
          if best_fit_refit mode_size_class start stored then bestFit fuel (best_fit_recurse_start stored) level segs
          else pure stored) :=
  QR.SourceTieB.bestFit_src fuel start level segs

/-- the stateful variant used by the object model performs the same steps -/
theorem C07_source_bestFitS_src (fuel start : Nat) (s : QRState) :
    bestFitS (fuel + 1) start s =
      (let start := best_fit_start (optStart start)
       if check_version_bad (best_fit_check_arg start) then (s, .error .valueError)
       else
        let sizes := modeSizes (best_fit_sizes_arg start)
        match segsBits (fun m => dictGet sizes m) s.dataList with
        | .error e => (s, .error e)
        | .ok buffer =>
          match idx Gen.BIT_LIMIT_TABLE (best_fit_bisect_row s.level) with
          | .error e => (s, .error e)
          | .ok row =>
            let version := bisectLeft row (best_fit_bisect_x start buffer.length) (row.length + 1)
                              (best_fit_bisect_lo start buffer.length) row.length
            if best_fit_overflow version then (s, .error .dataOverflow)
            else
              let stored := best_fit_store version
              match checkVersion stored with
              | .error e => (s, .error e)
              | .ok _ =>
                let s := { s with version := stored }
                if best_fit_refit mode_size_class start stored then bestFitS fuel (best_fit_recurse_start stored) s
                else (s, .ok stored)) := by
  rw [bestFitS]
  -- as in `SourceTieB.bestFit_src`: the fragments unfold, what is left differs only in how the range test is written
  simp only [best_fit_start_opt, QR.SourceTie.check_version_bad_eq, best_fit_check_arg, best_fit_sizes_arg,
    best_fit_bisect_row, best_fit_bisect_x, best_fit_bisect_lo, best_fit_overflow, best_fit_store, best_fit_refit,
    best_fit_recurse_start, QR.SourceTie.sizeClass_eq, checkVersion, decide_eq_true_eq]
  generalize (if start = 0 then 1 else start) = st
  by_cases hv : ((st : Int) < 1 ∨ (st : Int) > 40) <;> simp only [hv, if_true, if_false] <;> rfl

end SourceTieAB

/-! ### Capstones. `qrcode/main.py:QRCode.best_fit` is translated statement by statement (`Gen.Code.best_fit_*`, `check_version_bad`,
    `mode_size_class`), not as one function; `QR.CapstoneE1.bestFitSrc` / `segsBitsSrc` (end of QR/Proofs/SourceTieC07.lean) assemble
    those fragments exactly as the right-hand sides of `C07_source_bestFit_src` / `C07_source_segsBits_src` do, the
    recursive call going to the assembled function itself. The chain is only PARTLY translated: the callees
    `util.mode_sizes_for_version`, `data.write(buffer)`, `bisect.bisect_left` and the `version` setter are parameters,
    instantiated below by the Model functions `modeSizes`, `segWrite`, `bisectLeft`, `checkVersion` (those are tied to
    the source by the bridge theorems of other properties); `util.BIT_LIMIT_TABLE` is the table dumped from the running
    library (`Gen.BIT_LIMIT_TABLE`). No other Model function occurs in a conclusion. The first argument `4` is the
    recursion fuel (at most 3 levels are ever needed: one per version class), `start = 0` encodes `start=None`,
    `l.indicator` is the integer the library uses for the level, `toPSegs segs = some ps` reads the segments as Spec
    segments and `segCounts ps` are their (mode, character count) pairs. -/
section Capstone
open QR.Gen.Code QR.SourceTieA QR.CapstoneE1

/-- **capstone, `qrcode/main.py:QRCode.best_fit`** = the Spec's minimal-version function: the assembled translated source returns
    `Spec.minVersion start l counts`, the smallest version in `max start 1 .. 40` whose ISO capacity holds the stream
    (closed-form length with that version's own count widths), and raises DataOverflowError when there is none.
    From `C07_source_bestFit_src`, `C07_source_segsBits_src` (via `CapstoneE1.bestFitSrc_eq`) and `C07_eq_minVersion`. -/
theorem C07_source_capstone_eq_minVersion (start : Nat) (hs : start ≤ 40) (l : Spec.Level) (segs : List Seg)
    (ps : List Spec.PSeg) (hv : ∀ s ∈ segs, s.Valid) (hp : toPSegs segs = some ps) :
    bestFitSrc modeSizes (segsBitsSrc segWrite) Gen.BIT_LIMIT_TABLE bisectLeft checkVersion 4 start l.indicator segs =
      (match Spec.minVersion start l (segCounts ps) with
       | some v => .ok v
       | none => .error .dataOverflow) := by
  rw [bestFitSrc_eq]
  exact C07_eq_minVersion start hs l segs ps hv hp

/-- **capstone, `qrcode/main.py:QRCode.best_fit`**, definition-free: the version the assembled translated source returns is
    adequate (`Spec.fits`), not below the start, at most 40, and every smaller admissible version is inadequate.
    From `C07_source_bestFit_src`, `C07_source_segsBits_src` (via `CapstoneE1.bestFitSrc_eq`) and `C07_minimal`. -/
theorem C07_source_capstone_minimal (start : Nat) (hs : start ≤ 40) (l : Spec.Level) (segs : List Seg)
    (ps : List Spec.PSeg) (hv : ∀ s ∈ segs, s.Valid) (hp : toPSegs segs = some ps) (v : Nat)
    (h : bestFitSrc modeSizes (segsBitsSrc segWrite) Gen.BIT_LIMIT_TABLE bisectLeft checkVersion 4 start l.indicator segs = .ok v) :
    max start 1 ≤ v ∧ v ≤ 40 ∧ Spec.fits v l (segCounts ps) = true ∧
      ∀ u, max start 1 ≤ u → u < v → Spec.fits u l (segCounts ps) = false := by
  rw [bestFitSrc_eq] at h
  exact C07_minimal start hs l segs ps hv hp v h

/-- **capstone, `qrcode/main.py:QRCode.best_fit`**, failure: the assembled translated source raises DataOverflowError exactly when no
    version from the start up to 40 holds the stream, and raises nothing else.
    From `C07_source_bestFit_src`, `C07_source_segsBits_src` (via `CapstoneE1.bestFitSrc_eq`), `C07_overflow_iff` and
    `C07_error_only_overflow`. -/
theorem C07_source_capstone_overflow_iff (start : Nat) (hs : start ≤ 40) (l : Spec.Level) (segs : List Seg)
    (ps : List Spec.PSeg) (hv : ∀ s ∈ segs, s.Valid) (hp : toPSegs segs = some ps) :
    (bestFitSrc modeSizes (segsBitsSrc segWrite) Gen.BIT_LIMIT_TABLE bisectLeft checkVersion 4 start l.indicator segs = .error .dataOverflow ↔
      ∀ u, max start 1 ≤ u → u ≤ 40 → Spec.fits u l (segCounts ps) = false) ∧
    (∀ e, bestFitSrc modeSizes (segsBitsSrc segWrite) Gen.BIT_LIMIT_TABLE bisectLeft checkVersion 4 start l.indicator segs = .error e → e = .dataOverflow) := by
  rw [bestFitSrc_eq]
  exact ⟨C07_overflow_iff start hs l segs ps hv hp, fun e h => C07_error_only_overflow start hs l segs ps hv hp e h⟩

/-- **capstone, `qrcode/util.py:BIT_LIMIT_TABLE`** (the module-level comprehension `[[0] + [8 * sum(_data_count(b) for b in
    base.rs_blocks(version, ec)) for version in range(1, 41)] for ec in range(4)]`): the translated comprehension
    evaluates to a table whose row for each level is `0` followed by the ISO capacities `Spec.capacityBits v l`,
    `v = 1..40`. PARTLY translated: `bitLimitRow` (QR/Proofs/SourceTieC07.lean) is the translated row comprehension with
    the callee `base.rs_blocks` instantiated by `Model.rsBlocks` (tied to the source under C02).
    From `C07_source_bitLimitTable_src` and `C07_capacity_rows`. -/
theorem C07_source_capstone_capacity_rows :
    ∃ T, (List.range' bit_limit_level_range.1 (bit_limit_level_range.2 - bit_limit_level_range.1)).mapM bitLimitRow = .ok T ∧
      ∀ l ∈ allLevels, ∃ row, T[l.indicator]? = some row ∧ row.length = 41 ∧ row[0]? = some 0 ∧
        ∀ v, v < 40 → row[v + 1]? = some (Spec.capacityBits (v + 1) l) :=
  ⟨Gen.BIT_LIMIT_TABLE, C07_source_bitLimitTable_src, C07_capacity_rows⟩

/-- 200 bytes then 9 digits, level H, `start=None`: by the first capstone, from the Spec's minimal version for these counts -/
private theorem bestFitSrc_at_15 :
    bestFitSrc modeSizes (segsBitsSrc segWrite) Gen.BIT_LIMIT_TABLE bisectLeft checkVersion 4 0 Spec.Level.H.indicator
      [⟨4, List.replicate 200 65⟩, ⟨1, List.replicate 9 48⟩] = .ok 15 := by
  have hv : ∀ s ∈ ([⟨4, List.replicate 200 65⟩, ⟨1, List.replicate 9 48⟩] : List Seg), s.Valid := by
    intro s hs
    simp only [List.mem_cons, List.not_mem_nil, or_false] at hs
    rcases hs with rfl | rfl
    · exact Or.inr (Or.inr ⟨rfl, by decide +kernel⟩)
    · exact Or.inl ⟨rfl, by decide +kernel⟩
  have hm : Spec.minVersion 0 .H (segCounts [⟨.byte, List.replicate 200 65⟩, ⟨.numeric, List.replicate 9 48⟩]) = some 15 := by
    decide +kernel
  rw [C07_source_capstone_eq_minVersion 0 (by decide) .H _ [⟨.byte, List.replicate 200 65⟩, ⟨.numeric, List.replicate 9 48⟩] hv
    (by decide +kernel), hm]

/-- the first capstone at a concrete input (200 bytes then 9 digits, level H, `start=None`): the assembled translated source
    returns version 15 - found after a re-fit, since 15 is in another count-width class than the start 1 - which is the
    Spec's minimal version for these counts -/
example : bestFitSrc modeSizes (segsBitsSrc segWrite) Gen.BIT_LIMIT_TABLE bisectLeft checkVersion 4 0 Spec.Level.H.indicator
    [⟨4, List.replicate 200 65⟩, ⟨1, List.replicate 9 48⟩] = .ok 15 :=
  bestFitSrc_at_15

/-- the same through `toOption` -/
example : (bestFitSrc modeSizes (segsBitsSrc segWrite) Gen.BIT_LIMIT_TABLE bisectLeft checkVersion 4 0 Spec.Level.H.indicator
    [⟨4, List.replicate 200 65⟩, ⟨1, List.replicate 9 48⟩]).toOption = some 15 :=
  congrArg Except.toOption bestFitSrc_at_15

end Capstone

/-- the Python functions this property's model mirrors have, in /repo's current working tree, exactly the normalised
    ASTs the model was written and validated against (fingerprints regenerated by T1 on every run) -/
theorem C07_source_fingerprints : QR.Gen.fp_C07 = QR.Pinned.fp_C07 := by decide

end QR.Props
