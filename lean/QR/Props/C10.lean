import QR.Proofs.Segmentation
import QR.Proofs.Pinned
import QR.Proofs.SourceTieC10
/-
C10 - segmentation is lossless, uses valid and most-compact modes, honours the optimize threshold.
`Model.addData` mirrors QRCode.add_data / util.optimal_data_chunks / _optimal_split with the four regular expressions as
run scanners; `Spec.segmentation n d segs` states the five clauses of the property as predicates on the outcome (it does not
prescribe an algorithm).  Every statement is for ALL byte strings d and ALL thresholds n.  Main: `C10_segmentation`; `C10_valid`,
`C10_zero`, `C10_runs`, `C10_min_len` are projections of `segmentation_addData` (QR/Proofs/Segmentation.lean: the verdict record is
all-true).
`C10_source_*`: bridges, capstones and the fingerprint obligation (the three kinds are explained at the head of Props/C02.lean).
-/
namespace QR.Props
open QR.Model

/-- **C10 (main)**: all five clauses hold for the segments of every `add_data(d, optimize=n)` -/
theorem C10_segmentation (d : List Nat) (n : Nat) :
    ∀ ps, toPSegs (addData d n) = some ps → (Spec.segmentation n d ps).ok = true :=
  _root_.QR.C10_segmentation d n

/-- the segments always have one of the three supported modes (the hypothesis above is never vacuous) -/
theorem C10_modes (d : List Nat) (n : Nat) : ∃ ps, toPSegs (addData d n) = some ps :=
  ⟨_, Seg.addData_toPSegs_eq d n⟩

/-- lossless: the segments concatenate to exactly the supplied bytes -/
theorem C10_lossless (d : List Nat) (n : Nat) : (addData d n).flatMap (·.data) = d :=
  _root_.QR.addData_flatMap_data d n

/-- valid: numeric segments hold ASCII digits only, alphanumeric ones the 45-character set only -/
theorem C10_valid (d : List Nat) (n : Nat) :
    ∀ ps, toPSegs (addData d n) = some ps → (Spec.segmentation n d ps).valid = true :=
  fun ps h => by rw [_root_.QR.segmentation_addData d n h]

/-- threshold 0: exactly one segment, in the most compact mode able to represent the data -/
theorem C10_zero (d : List Nat) (n : Nat) :
    ∀ ps, toPSegs (addData d n) = some ps → (Spec.segmentation n d ps).thresholdZero = true :=
  fun ps h => by rw [_root_.QR.segmentation_addData d n h]

/-- threshold n > 0: every run of ≥ n digits is carried in numeric mode, every run of ≥ n alphanumeric characters outside
    those digit runs in alphanumeric mode -/
theorem C10_runs (d : List Nat) (n : Nat) :
    ∀ ps, toPSegs (addData d n) = some ps → (Spec.segmentation n d ps).runsCarried = true :=
  fun ps h => by rw [_root_.QR.segmentation_addData d n h]

/-- and when the data is longer than n no numeric or alphanumeric segment is shorter than n -/
theorem C10_min_len (d : List Nat) (n : Nat) :
    ∀ ps, toPSegs (addData d n) = some ps → (Spec.segmentation n d ps).minLength = true :=
  fun ps h => by rw [_root_.QR.segmentation_addData d n h]

/-- a requested mode that cannot represent the data is rejected (ValueError) instead of being mis-encoded -/
theorem C10_explicit_rejected (d : List Nat) (m : Nat) (hm : m = 1 ∨ m = 2 ∨ m = 4) :
    (∃ md, Spec.Mode.ofIndicator m = some md ∧ Spec.canRepresent md d = false) →
    mkQRData d (some m) true = .error .valueError := by
  rintro ⟨md, hmd, hrep⟩
  rcases hm with rfl | rfl | rfl
  · -- numeric requested, some non-digit present
    simp only [Spec.Mode.ofIndicator, Option.some.injEq] at hmd
    subst hmd
    simp only [Spec.canRepresent, Seg.isDigitChar_eq] at hrep
    simp [mkQRData, Gen.MODE_NUMBER, Seg.one_lt_optimalMode hrep]
  · -- alphanumeric requested, some character outside the 45-set
    simp only [Spec.Mode.ofIndicator, Option.some.injEq] at hmd
    subst hmd
    simp only [Spec.canRepresent, Seg.isAlnumChar_eq] at hrep
    simp [mkQRData, Gen.MODE_ALPHA_NUM, Seg.two_lt_optimalMode hrep]
  · -- byte mode represents everything
    simp only [Spec.Mode.ofIndicator, Option.some.injEq] at hmd
    subst hmd
    simp [Spec.canRepresent] at hrep

/-- threshold 0 shape -/
theorem C10_zero_single (d : Bytes) : addData d 0 = [{ mode := optimalMode d, data := d }] := by
  simp [addData]

/-- non-vacuity (tests of the statement on concrete data): "AB1234567cd" with threshold 4 -/
example : addData [65, 66, 49, 50, 51, 52, 53, 54, 55, 99, 100] 4 =
    [⟨4, [65, 66]⟩, ⟨1, [49, 50, 51, 52, 53, 54, 55]⟩, ⟨4, [99, 100]⟩] := by decide

/-! ### Bridges (plugin `frag_d1.py`, `Gen.Code.sg_*`: the segmentation code translated statement by statement).  `pyModel F enc` is
the interpreter record of the Model: its regex engine `searchModel` / `matchModel` (the ASSUMPTION on `re` stated in
Model/Segment.lean, as a value), its two exceptions, arguments that are `bytes`, `F d` iterations granted to `while data:` started
on `d`. -/
section SourceTieD1
open QR.Gen.Code QR.SourceTieD1

/-- `util.MODE_NUMBER / MODE_ALPHA_NUM / MODE_8BIT_BYTE`, `ALPHA_NUM`, `RE_ALPHA_NUM = compile(b"^[" + re.escape(ALPHA_NUM) + rb"]*\Z")`
    and the defaults `minimum=4`, `optimize=20`, as read from the AST, are the Model's tables -/
theorem C10_source_consts : sg_MODE_NUMBER = Gen.MODE_NUMBER ∧ sg_MODE_ALPHA_NUM = Gen.MODE_ALPHA_NUM ∧
    sg_MODE_8BIT_BYTE = Gen.MODE_8BIT_BYTE ∧ sg_ALPHA_NUM = Gen.ALPHA_NUM ∧
    sg_RE_ALPHA_NUM = .anchoredStarZ (.set Gen.ALPHA_NUM) ∧
    sg_optimal_data_chunks_default_minimum = 4 ∧ sg_add_data_default_optimize = 20 :=
  QR.SourceTieD1.consts_src

/-- `util.to_bytestring(data)` returns a `bytes` argument unchanged (the Model's functions take the bytes themselves) -/
theorem C10_source_toBytestring {ε : Type} (py : sg_Py ε) (data : List Nat) (hb : py.isinstance_bytes data = true) :
    sg_to_bytestring py data = data :=
  QR.SourceTieD1.toBytestring_src py data hb

/-- **`util.optimal_mode`** (`data.isdigit()`, `RE_ALPHA_NUM.match(data)`, the three returns) = `Model.optimalMode`,
    for every byte string -/
theorem C10_source_optimalMode (fuel enc) (data : Bytes) :
    optimalMode data = sg_optimal_mode (pyModel fuel enc) data :=
  QR.SourceTieD1.optimalMode_src fuel enc data

/-- **`QRData.__init__(data, mode, check_data)`** on a byte string (the `to_bytestring` call, `mode is None`, the `not in`
    TypeError, the `check_data and mode < optimal_mode(data)` ValueError, the two attributes) = `Model.mkQRData`:
    same object, same exception, for all arguments -/
theorem C10_source_mkQRData (fuel enc) (data : Bytes) (mode : Option Nat) (checkData : Bool) :
    sg_qrdata_init (pyModel fuel enc) data mode checkData = (mkQRData data mode checkData).map segQ :=
  QR.SourceTieD1.mkQRData_src fuel enc data mode checkData

/-- **`util._optimal_split(data, compile(C{n,}))`** (the `while data:` loop, `re.search`, `break`, the three yields, the slices)
    = `Model.splitRuns`, for every class, threshold, fuel and byte string -/
theorem C10_source_splitRuns (enc) (c : sg_Cls) (n : Nat) (fuel : Nat) (data : List Nat) :
    splitRuns (clsPred c) n fuel data = sg_optimal_split (pyModel (fun _ => fuel) enc) data (.atLeast c n) :=
  splitRuns_out _ enc c n fuel data

/-- **`util._optimal_split(data, compile(^C+$))`** = `Model.splitAnchored`, as soon as one iteration is granted -/
theorem C10_source_splitAnchored (enc) (c : sg_Cls) (fuel : Nat) (hfuel : 1 ≤ fuel) (data : List Nat) :
    splitAnchored (clsPred c) data = sg_optimal_split (pyModel (fun _ => fuel) enc) data (.anchoredPlus c) := by
  obtain ⟨f, rfl⟩ : ∃ f, fuel = f + 1 := ⟨fuel - 1, by omega⟩
  exact splitAnchored_out _ enc c f data

/-- `_optimal_split`'s loop ends by itself with the Model's engine: every fuel ≥ `len(data)` gives the result of fuel
    `len(data)` (what `Model.optimalDataChunks` passes to `splitRuns`), so no yielded value is an artefact of the fuel -/
theorem C10_source_optimalSplit_fuel (F enc) (p : sg_Pat) (fuel : Nat) (data : List Nat) (h : data.length ≤ fuel) :
    splitOut (pyModel F enc) p fuel data = splitOut (pyModel F enc) p data.length data :=
  QR.SourceTieD1.optimalSplit_fuel F enc p fuel data h

/-- **`util.optimal_data_chunks(data, minimum)`** (the `len(data) <= minimum` test, which pattern is built in which branch -
    `b"^" + C + b"+$"` vs `C + b"{" + str(minimum).encode("ascii") + b",}"` with `C = rb"\d"` / `b"[" + re.escape(ALPHA_NUM) + b"]"` -,
    the nested generator loops, the three `QRData(..., mode=..., check_data=False)` calls) raises nothing and yields exactly
    `Model.optimalDataChunks data minimum`, whatever number `F d ≥ len(d)` of iterations each `while` loop is granted -/
theorem C10_source_optimalDataChunks (F enc) (hF : ∀ d : List Nat, d.length ≤ F d) (data : Bytes) (minimum : Nat) :
    sg_optimal_data_chunks (pyModel F enc) data minimum = .ok ((optimalDataChunks data minimum).map segQ) :=
  QR.SourceTieD1.optimalDataChunks_src F enc hF data minimum

/-- **`QRCode.add_data(data, optimize)`** for a byte string (`isinstance(data, util.QRData)` false, `elif optimize:` by
    truthiness, `extend(optimal_data_chunks(data, minimum=optimize))` / `append(QRData(data))`, `self.data_cache = None`):
    `data_list` grows by exactly `Model.addData data optimize`, the cache is reset -/
theorem C10_source_addData (F enc) (hF : ∀ d : List Nat, d.length ≤ F d) {κ : Type} (dl : List sg_QRData) (cache : Option κ)
    (data : Bytes) (optimize : Nat) :
    sg_add_data (pyModel F enc) dl cache (.inr data) optimize =
      .ok (dl ++ (addData data optimize).map segQ, none) :=
  QR.SourceTieD1.addData_src F enc hF dl cache data optimize

/-- **`QRCode.add_data(qrdata_object)`**: the `isinstance` branch appends the object itself and resets the cache -/
theorem C10_source_addData_object (F enc) {κ : Type} (dl : List sg_QRData) (cache : Option κ) (q : sg_QRData) (optimize : Nat) :
    sg_add_data (pyModel F enc) dl cache (.inl q) optimize = .ok (dl ++ [q], none) :=
  rfl

end SourceTieD1

/-! ### Capstones: the translated segmentation code itself satisfies the Spec clauses.
The only not-translated callee is the `re` engine: the interpreter record is `pyModel F enc`, i.e. `re.search` / `re.match`
are instantiated by `SourceTieD1.searchModel` / `matchModel` (the stated assumption on `re`), arguments are `bytes`, and each
`while data:` loop started on `d` is granted `F d ≥ len(d)` iterations.  `CapstoneE3.qToPSegs` reads the translated `QRData`
objects as Spec segments (same reading as `toPSegs`). -/
section Capstone
open QR.Gen.Code QR.SourceTieD1 QR.CapstoneE3

/-- **capstone, `main.py:QRCode.add_data` -> `util.py:optimal_data_chunks` -> `util.py:_optimal_split`, `util.py:QRData.__init__`,
    `util.py:optimal_mode`, `util.py:to_bytestring`** (all translated, `sg_*`; `re` = `searchModel`): for every byte string, every
    threshold and every previous `data_list`, the translated `add_data` raises nothing, resets the cache, and appends objects
    `qs` that have supported modes and satisfy ALL FIVE clauses of `Spec.segmentation optimize data` (lossless, valid,
    threshold 0, runs carried, minimum length). From `C10_source_addData`, `C10_modes`, `C10_segmentation`. -/
theorem C10_source_capstone_add_data (F enc) (hF : ∀ d : List Nat, d.length ≤ F d) {κ : Type} (dl : List sg_QRData)
    (cache : Option κ) (data : Bytes) (optimize : Nat) :
    ∃ qs ps, sg_add_data (pyModel F enc) dl cache (.inr data) optimize = .ok (dl ++ qs, none) ∧
      qToPSegs qs = some ps ∧ (Spec.segmentation optimize data ps).ok = true := by
  obtain ⟨ps, hps⟩ := C10_modes data optimize
  exact ⟨(addData data optimize).map segQ, ps, C10_source_addData F enc hF dl cache data optimize,
    by rw [qToPSegs_map_segQ, hps], C10_segmentation data optimize ps hps⟩

/-- **capstone, `util.py:optimal_data_chunks`** (with `_optimal_split`, `QRData.__init__`; `re` = `searchModel`) called directly
    with `minimum ≥ 1`: it raises nothing and yields objects with supported modes satisfying the five clauses of
    `Spec.segmentation minimum data`. From `C10_source_optimalDataChunks`, `C10_modes`, `C10_segmentation`. -/
theorem C10_source_capstone_optimal_data_chunks (F enc) (hF : ∀ d : List Nat, d.length ≤ F d) (data : Bytes) (minimum : Nat)
    (hmin : 1 ≤ minimum) :
    ∃ qs ps, sg_optimal_data_chunks (pyModel F enc) data minimum = .ok qs ∧
      qToPSegs qs = some ps ∧ (Spec.segmentation minimum data ps).ok = true := by
  obtain ⟨ps, hps⟩ := C10_modes data minimum
  have hadd : addData data minimum = optimalDataChunks data minimum := by
    have : minimum ≠ 0 := by omega
    simp [addData, this]
  refine ⟨(optimalDataChunks data minimum).map segQ, ps, C10_source_optimalDataChunks F enc hF data minimum, ?_,
    C10_segmentation data minimum ps hps⟩
  rw [qToPSegs_map_segQ, ← hadd, hps]

/-- **capstone (lossless, read directly on the translated objects), `main.py:QRCode.add_data`**: the `data` attributes of the
    appended objects concatenate to exactly the supplied bytes. From `C10_source_addData`, `C10_lossless`. -/
theorem C10_source_capstone_add_data_lossless (F enc) (hF : ∀ d : List Nat, d.length ≤ F d) {κ : Type} (dl : List sg_QRData)
    (cache : Option κ) (data : Bytes) (optimize : Nat) :
    ∃ qs, sg_add_data (pyModel F enc) dl cache (.inr data) optimize = .ok (dl ++ qs, none) ∧
      qs.flatMap (·.data) = data :=
  ⟨(addData data optimize).map segQ, C10_source_addData F enc hF dl cache data optimize,
    by rw [flatMap_data_map_segQ, C10_lossless]⟩

/-- **capstone, `util.py:QRData.__init__(data, mode=m, check_data=True)`** (translated, with `optimal_mode`, `to_bytestring`):
    a requested mode that, by the Spec (`Spec.canRepresent`), cannot represent the data raises the interpreter's `ValueError`.
    From `C10_source_mkQRData`, `C10_explicit_rejected`. -/
theorem C10_source_capstone_qrdata_rejected (fuel enc) (d : List Nat) (m : Nat) (hm : m = 1 ∨ m = 2 ∨ m = 4)
    (h : ∃ md, Spec.Mode.ofIndicator m = some md ∧ Spec.canRepresent md d = false) :
    sg_qrdata_init (pyModel fuel enc) d (some m) true = .error (pyModel fuel enc).ValueError := by
  rw [C10_source_mkQRData, C10_explicit_rejected d m hm h]; rfl

/-- the capstone's conclusion evaluated on "AB1234567cd", threshold 4, through the TRANSLATED code: three objects
    (byte, numeric, byte), and the Spec verdict on them is `true` -/
example : sg_add_data (pyModel (fun d => d.length) id) [] (none : Option Unit)
      (.inr [65, 66, 49, 50, 51, 52, 53, 54, 55, 99, 100]) 4 =
      .ok ([⟨4, [65, 66]⟩, ⟨1, [49, 50, 51, 52, 53, 54, 55]⟩, ⟨4, [99, 100]⟩], none) ∧
    (Spec.segmentation 4 [65, 66, 49, 50, 51, 52, 53, 54, 55, 99, 100]
      [⟨.byte, [65, 66]⟩, ⟨.numeric, [49, 50, 51, 52, 53, 54, 55]⟩, ⟨.byte, [99, 100]⟩]).ok = true :=
  ⟨by rfl, by decide⟩

end Capstone

/-- the Python functions this property's model mirrors have, in /repo's current working tree, exactly the normalised
    ASTs the model was written and validated against (fingerprints regenerated by T1 on every run) -/
theorem C10_source_fingerprints : QR.Gen.fp_C10 = QR.Pinned.fp_C10 := by decide

end QR.Props
