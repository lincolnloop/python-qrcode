import QR.Model.Compile
import QR.Spec.Reader
import QR.Proofs.ReadBack
import QR.Proofs.SegShape
import QR.Proofs.Pinned
import QR.Proofs.CapstoneCompile
/-
C01 - read (compile cfg payload) = payload.
Every symbol `Model.compile` produces (any valid configuration: version given / fitted, any of the four levels, mask given /
chosen automatically; any list of valid segments, unbounded) is accepted by the strict ISO reader `Spec.read`, which is
composed only of Spec definitions: size -> version, both format copies -> (level, mask), version information, every
function-pattern module, zig-zag read-out and unmasking, zero remainder bits, Table 9 de-interleaving, every block a
Reed-Solomon codeword (all syndromes zero), ISO bit-stream grammar.  The reader returns exactly the segments, hence the
payload.  The proof composes C02 (blocks), C03 (totality, version), C04 (format/version information), C05 (function
patterns, placement), C06 (bit stream) and C10 (`add_data`); the mask `compile` reports is the one its final `makeImpl` was
given (`Proofs.CompileOK.built`).  Main: `C01_read_compile` (on segments), `C01_roundtrip` (with `add_data` in front, `C01_add_data`).
`C01_source_*`: bridges, capstones and the fingerprint obligation (the three kinds are explained at the head of Props/C02.lean).
-/
namespace QR.Props

/-- non-vacuity / smoke test of the statement on one concrete symbol: version 1-M, mask 3, payload "hi" -/
theorem C01_example_roundtrip :
    (match Model.compile { version := 1, level := 0, mask := some 3, fit := false } [{ mode := 4, data := [104, 105] }] with
     | .ok (v, m, M) => (match Spec.read (symOf M) with
        | .ok r => r.version == v && r.mask == m && r.payload == [104, 105] && r.level == Spec.Level.M
        | .error _ => false)
     | .error _ => false) = true := by decide +kernel

/-- the record the strict reader returns on a compiled symbol, with the data codewords it finds: `compile` = `create_data`
    then `makeImpl` (`compile_char`); the codewords are as `Proofs.DataOK` says, and `read_makeImpl` reads them back -/
theorem read_compile (cfg : Model.Cfg) (hcfg : cfg.Valid) (l : Spec.Level) (hl : cfg.level = l.indicator)
    (segs : List Model.Seg) (hv : ∀ s ∈ segs, s.Valid)
    (ps : List Spec.PSeg) (hp : toPSegs segs = some ps) (v m : Nat) (M : Model.Mat)
    (h : Model.compile cfg segs = .ok (v, m, M)) :
    ∃ buf, Spec.read (symOf M) = .ok { version := v, level := l, mask := m, dataCodewords := buf, segs := ps,
                                       tailConformant := true } ∧
      buf.length = Spec.dataCodewords v l ∧
      Spec.readStream v (Model.writeBytes buf) = some { segs := ps, tailConformant := true } := by
  have hc := R.ok_of_char (Proofs.compile_char hcfg hl hv hp) h
  have h1 : 1 ≤ v := hc.one_le
  obtain ⟨data, _, hdata, hM⟩ := hc.built
  have hS : GeoC.Shows (symOf M) (Spec.size v) M :=
    ⟨(Sym.makeImpl_of_ok h1 l.indicator_lt hM).shape.1, fun r c _ _ => rfl⟩
  exact ⟨_, Sym.read_makeImpl h1 hM hS hdata, hdata.count, hdata.stream⟩

/-- **C01 (main)**: for every valid configuration, level and list of valid segments, whenever `compile` succeeds the
    strict ISO reader accepts the symbol and returns the version and mask `compile` reports, the requested level, exactly
    the segments (so exactly the payload), with conformant terminator / padding; the version and mask are the requested
    ones where requested -/
theorem C01_read_compile (cfg : Model.Cfg) (hcfg : cfg.Valid) (l : Spec.Level) (hl : cfg.level = l.indicator)
    (segs : List Model.Seg) (hv : ∀ s ∈ segs, s.Valid)
    (ps : List Spec.PSeg) (hp : toPSegs segs = some ps) (v m : Nat) (M : Model.Mat)
    (h : Model.compile cfg segs = .ok (v, m, M)) :
    ∃ r, Spec.read (symOf M) = .ok r ∧ r.version = v ∧ r.level = l ∧ r.mask = m ∧ r.segs = ps ∧
      r.tailConformant = true ∧ r.payload = segs.flatMap (·.data) ∧ (∀ m', cfg.mask = some m' → m = m') ∧
      (cfg.version ≠ 0 → cfg.fit = false → v = cfg.version) ∧ cfg.version ≤ v := by
  obtain ⟨hvs, hmask⟩ := Proofs.C03_version cfg hcfg l hl segs hv ps hp v m M h
  obtain ⟨_, hread, _⟩ := read_compile cfg hcfg l hl segs hv ps hp v m M h
  refine ⟨_, hread, rfl, rfl, rfl, rfl, rfl, toPSegs_payload segs ps hp, hmask, ?_, ?_⟩
  · intro h0 hfit
    rw [hfit] at hvs
    exact hvs.1 h0
  · cases hfit : cfg.fit with
    | true =>
      rw [hfit] at hvs
      exact Proofs.minVersion_ge _ _ _ _ hvs
    | false =>
      rw [hfit] at hvs
      by_cases h0 : cfg.version = 0
      · omega
      · exact Nat.le_of_eq (hvs.1 h0).symm

/-- the reader also reports the right number of data codewords (ISO Table 7 capacity of (version, level)) -/
theorem C01_data_codewords (cfg : Model.Cfg) (hcfg : cfg.Valid) (l : Spec.Level) (hl : cfg.level = l.indicator)
    (segs : List Model.Seg) (hv : ∀ s ∈ segs, s.Valid)
    (ps : List Spec.PSeg) (hp : toPSegs segs = some ps) (v m : Nat) (M : Model.Mat)
    (h : Model.compile cfg segs = .ok (v, m, M)) :
    ∃ r, Spec.read (symOf M) = .ok r ∧ r.dataCodewords.length = Spec.dataCodewords v l ∧
      Spec.readStream v (Model.writeBytes r.dataCodewords) = some { segs := ps, tailConformant := true } := by
  obtain ⟨buf, hread, hlen, hstream⟩ := read_compile cfg hcfg l hl segs hv ps hp v m M h
  exact ⟨_, hread, hlen, hstream⟩

/-- **C01 (`add_data`)**: several `add_data(d, optimize=n)` calls with any byte strings and any thresholds produce valid
    segments that concatenate to exactly the payload - so `C01_read_compile` applies to everything `add_data` produces.
    (`Bytes` is `List Nat` in the model; the hypothesis says the payload consists of bytes.) -/
theorem C01_add_data (calls : List (List Nat × Nat)) (hb : ∀ p ∈ calls, ∀ c ∈ p.1, c < 256) :
    let segs := calls.flatMap fun p => Model.addData p.1 p.2
    (∀ s ∈ segs, s.Valid) ∧ segs.flatMap (·.data) = calls.flatMap (·.1) := by
  intro segs
  constructor
  · exact Seg.addData_calls_valid calls hb
  · show (calls.flatMap fun p => Model.addData p.1 p.2).flatMap (·.data) = calls.flatMap (·.1)
    simp only [List.flatMap_assoc, addData_flatMap_data]

/-- **C01 (end to end)**: payload byte strings added by `add_data` (any thresholds), any valid configuration: whenever
    `make` succeeds, the strict ISO reader returns the concatenated payload, byte for byte -/
theorem C01_roundtrip (cfg : Model.Cfg) (hcfg : cfg.Valid) (l : Spec.Level) (hl : cfg.level = l.indicator)
    (calls : List (List Nat × Nat)) (hb : ∀ p ∈ calls, ∀ c ∈ p.1, c < 256) (v m : Nat) (M : Model.Mat)
    (h : Model.compile cfg (calls.flatMap fun p => Model.addData p.1 p.2) = .ok (v, m, M)) :
    ∃ r, Spec.read (symOf M) = .ok r ∧ r.version = v ∧ r.level = l ∧ r.mask = m ∧ r.tailConformant = true ∧
      r.payload = calls.flatMap (·.1) := by
  obtain ⟨hvalid, hcat⟩ := C01_add_data calls hb
  obtain ⟨ps, hp⟩ := toPSegs_of_valid hvalid
  obtain ⟨r, hr, a1, a2, a3, _, a5, a6, _⟩ := C01_read_compile cfg hcfg l hl _ hvalid ps hp v m M h
  exact ⟨r, hr, a1, a2, a3, a5, a6.trans hcat⟩

/-! ### Capstones: the whole compile assembled from translated parts satisfies the Spec-level statements.  (Props/C03.lean and
    Props/C09.lean instantiate the same callees and refer to this comment for what is translated and what is trusted.)
    `QR.CapstoneE4.compileSrc` (QR/Proofs/CapstoneCompile.lean) is the cache-free compile of a fresh object
    (`QRCode(version, error_correction, mask_pattern)`, `data_list = segs`, `make(fit)`) with the statement order, tests and call
    arguments of main.py:QRCode.make as translated (`Gen.Code.make_*`, regenerated from /repo's current Python AST on every run)
    and its four callees as PARAMETERS, instantiated below, explicitly, by the functions assembled from translated fragments:
      `best_fit`            `CapstoneE1.bestFitSrc` (main.py:QRCode.best_fit, every statement; accumulation loop `segsBitsSrc`) over
                            `modeSizesSrc` (util.py:mode_sizes_for_version), `checkVersionSrc` (util.py:check_version, run by the
                            `version` setter), `writeBufSrc` (util.py:QRData.write on the translated BitBuffer: put, put_bit,
                            __len__, get); `Gen.BIT_LIMIT_TABLE` is the table dumped from the running library; 4 = recursion
                            fuel.  Model callee left: `bisectLeft` (bisect.bisect_left of the standard library)
      `create_data`         `CapstoneE4.createDataSrc` (util.py:create_data, length_in_bits, base.py:rs_blocks, util.py:create_bytes
                            with both interleaving loops and the `current_ec` computation `ecOfBlockSrc`) over `segsBitsBufSrc`
                            (the segment loop on the translated BitBuffer: put, put_bit, QRData.__len__, QRData.write, bits read
                            back by the translated __len__ / get).  Model callees left: `rsPolyFor`, `polyMk`, `polyMod` (generator
                            lookup / fallback loop, `Polynomial.__init__`, `Polynomial.__mod__`; tied to the source under C02),
                            and inside `QRData.write` `intOfDigits` (`int(chars)`)
      `makeImpl`            `CapstoneE2.makeImplSrc` (main.py:QRCode.makeImpl with setup_position_probe_pattern,
                            setup_position_adjust_pattern, setup_timing_pattern, util.py:pattern_position, setup_type_info,
                            setup_type_number, util.py:BCH_type_info, BCH_type_number, map_data, the lambdas of util.py:mask_func)
                            over `bchDigitSrc` (util.py:BCH_digit, translated `while` loop)
      `best_mask_pattern`   `CapstoneE4.bestMaskSrc` (inside `compileSrc`: `range(mask_candidates)`, `makeImpl(True, i)`, the
                            translated update test `pick_update`)
      `lost_point`          `CapstoneE4.lostPointSrc` (util.py:lost_point and its four scanners, all translated)
    `find_bytes` = `ALPHA_NUM.find` on a one-character bytes object, with the hypothesis `hfb` of the bridge kept.
    Hand-assembled, not translated: the `for` / `while` skeletons of the assemblers (fuel where a `while` has no static bound),
    the `if pattern == k` dispatch of `mask_func`, the two caches (`data_cache` = `create_data` run once;
    `precomputed_qr_blanks` = always a miss), the representation functions (`bitsBE`, `packBytes`, `Mat.toBMat`: `BitBuffer.put` as
    a bit list, `buffer.buffer`, `self.modules` read as Booleans).
    `compileCallsSrc` puts the translated main.py:QRCode.add_data (`sg_add_data`, with util.py:optimal_data_chunks,
    _optimal_split, QRData.__init__, optimal_mode, to_bytestring; the `re` engine as `SourceTieD1.pyModel F enc`: `searchModel` /
    `matchModel`, `F d ≥ len(d)` iterations for each `while data:`) in front; `qSeg` reads a translated `QRData` object as a
    segment.  `symOf` is the Boolean view of the matrix handed to the reader.  No other Model function occurs in a conclusion.
    All from `QR.CapstoneE4.compileSrc_eq_refined` / `compileCallsSrc_eq_refined` (= `bestFitSrc_eq`, `createDataSrc_eq`,
    `makeImplSrc_eq`, `SourceTie.pick_eq`, `SourceTieD3.lostPoint_src`, `segsLoopSrc_eq`, `segWrite_bytes_src`, `bchDigit_src`,
    `addData_src`) and the property theorems above. -/
section Capstone
open QR.Model QR.SourceTieD1 QR.CapstoneE1 QR.CapstoneE2 QR.CapstoneE4

/-- **capstone, main.py:QRCode.make -> best_fit -> util.py:create_data (-> rs_blocks -> create_bytes) -> best_mask_pattern
    (-> makeImpl(True, i) -> util.py:lost_point) -> makeImpl(False, ·) (the whole compile)**: for every valid configuration, each of
    the four levels and every list of valid segments, whenever the compile assembled from the translated source succeeds, the
    strict ISO reader `Spec.read` accepts the symbol and returns the version and mask the compile reports, the requested level,
    exactly the segments - hence exactly the payload bytes -, conformant terminator / padding; the mask and version are the
    requested ones where requested.  From `compileSrc_eq_refined` and `C01_read_compile`. -/
theorem C01_source_capstone_read_compile (find_bytes : List Nat → R Nat) (hfb : ∀ a, find_bytes [a] = alphaFind a)
    (cfg : Model.Cfg) (hcfg : cfg.Valid) (l : Spec.Level) (hl : cfg.level = l.indicator)
    (segs : List Model.Seg) (hv : ∀ s ∈ segs, s.Valid)
    (ps : List Spec.PSeg) (hp : toPSegs segs = some ps) (v m : Nat) (M : Model.Mat)
    (h : compileSrc (bestFitSrc modeSizesSrc (segsBitsSrc (writeBufSrc find_bytes)) Gen.BIT_LIMIT_TABLE bisectLeft checkVersionSrc 4)
        (createDataSrc (segsBitsBufSrc find_bytes) (ecOfBlockSrc rsPolyFor polyMk polyMod)) (makeImplSrc bchDigitSrc) lostPointSrc cfg segs
      = .ok (v, m, M)) :
    ∃ r, Spec.read (symOf M) = .ok r ∧ r.version = v ∧ r.level = l ∧ r.mask = m ∧ r.segs = ps ∧
      r.tailConformant = true ∧ r.payload = segs.flatMap (·.data) ∧ (∀ m', cfg.mask = some m' → m = m') ∧
      (cfg.version ≠ 0 → cfg.fit = false → v = cfg.version) ∧ cfg.version ≤ v := by
  rw [compileSrc_eq_refined find_bytes hfb cfg (hl ▸ l.indicator_lt)] at h
  exact C01_read_compile cfg hcfg l hl segs hv ps hp v m M h

/-- **capstone, main.py:QRCode.add_data (translated, with the segmentation below it) -> the whole compile, end to end**: payload
    byte strings added by `add_data(d, optimize=n)` (any thresholds), any valid configuration: whenever the translated `add_data`
    calls followed by the assembled compile succeed, the strict ISO reader returns the concatenated payload, byte for byte, with
    the version, level and mask of the compile.  From `compileCallsSrc_eq_refined` (`C10_source_addData`) and `C01_roundtrip`. -/
theorem C01_source_capstone_roundtrip (find_bytes : List Nat → R Nat) (hfb : ∀ a, find_bytes [a] = alphaFind a)
    (F enc) (hF : ∀ d : List Nat, d.length ≤ F d)
    (cfg : Model.Cfg) (hcfg : cfg.Valid) (l : Spec.Level) (hl : cfg.level = l.indicator)
    (calls : List (List Nat × Nat)) (hb : ∀ p ∈ calls, ∀ c ∈ p.1, c < 256) (v m : Nat) (M : Model.Mat)
    (h : compileCallsSrc (pyModel F enc)
        (bestFitSrc modeSizesSrc (segsBitsSrc (writeBufSrc find_bytes)) Gen.BIT_LIMIT_TABLE bisectLeft checkVersionSrc 4)
        (createDataSrc (segsBitsBufSrc find_bytes) (ecOfBlockSrc rsPolyFor polyMk polyMod)) (makeImplSrc bchDigitSrc) lostPointSrc cfg calls
      = .ok (v, m, M)) :
    ∃ r, Spec.read (symOf M) = .ok r ∧ r.version = v ∧ r.level = l ∧ r.mask = m ∧ r.tailConformant = true ∧
      r.payload = calls.flatMap (·.1) := by
  rw [compileCallsSrc_eq_refined F enc hF find_bytes hfb cfg (hl ▸ l.indicator_lt)] at h
  exact C01_roundtrip cfg hcfg l hl calls hb v m M h

/-- **capstone, same chain as `C01_source_capstone_read_compile`: the codewords the reader finds** - it reports exactly the ISO
    Table 7 number of data codewords of (version, level), and these, read as a bit stream by the ISO recogniser, are the
    segments with a conformant tail.  From `compileSrc_eq_refined` and `C01_data_codewords`. -/
theorem C01_source_capstone_data_codewords (find_bytes : List Nat → R Nat) (hfb : ∀ a, find_bytes [a] = alphaFind a)
    (cfg : Model.Cfg) (hcfg : cfg.Valid) (l : Spec.Level) (hl : cfg.level = l.indicator)
    (segs : List Model.Seg) (hv : ∀ s ∈ segs, s.Valid)
    (ps : List Spec.PSeg) (hp : toPSegs segs = some ps) (v m : Nat) (M : Model.Mat)
    (h : compileSrc (bestFitSrc modeSizesSrc (segsBitsSrc (writeBufSrc find_bytes)) Gen.BIT_LIMIT_TABLE bisectLeft checkVersionSrc 4)
        (createDataSrc (segsBitsBufSrc find_bytes) (ecOfBlockSrc rsPolyFor polyMk polyMod)) (makeImplSrc bchDigitSrc) lostPointSrc cfg segs
      = .ok (v, m, M)) :
    ∃ r, Spec.read (symOf M) = .ok r ∧ r.dataCodewords.length = Spec.dataCodewords v l ∧
      Spec.readStream v (Model.writeBytes r.dataCodewords) = some { segs := ps, tailConformant := true } := by
  rw [compileSrc_eq_refined find_bytes hfb cfg (hl ▸ l.indicator_lt)] at h
  exact C01_data_codewords cfg hcfg l hl segs hv ps hp v m M h

/-- **capstone, main.py:QRCode.make on the real object, with both caches** (`QR.CapstoneE3.makeSrc`, a PARTLY translated chain: which
    pieces of `make(fit)` are translated and which callees are the Model's is said at `C11_source_capstone_make`, Props/C11.lean):
    on any object with valid settings, valid data and a sound process-wide cache of blanks `g` (`GInv`), whenever the assembled
    `make(fit)` returns normally, the strict ISO reader accepts `self.modules` and returns the version left in the object, the
    level, exactly the segments of `data_list` - hence the payload -, conformant tail, and the requested mask when one was set;
    from `CapstoneE3.makeSrc_eq`, `makeS_ok` (CachedCompile) and `C01_read_compile`. -/
theorem C01_source_capstone_make_read (fit : Bool) (g : Model.Global) (s : Model.QRState) (l : Spec.Level)
    (hg : GInv g) (hver : s.version ≤ 40) (hm : ∀ m, s.mask = some m → m ≤ 7) (hl : s.level = l.indicator)
    (hsegs : ∀ x ∈ s.dataList, x.Valid) (ps : List Spec.PSeg) (hp : toPSegs s.dataList = some ps)
    (g' : Model.Global) (s' : Model.QRState) (h : QR.CapstoneE3.makeSrc fit g s = ((g', s'), .ok ())) :
    ∃ r, Spec.read (symOf s'.modules) = .ok r ∧ r.version = s'.version ∧ r.level = l ∧ r.segs = ps ∧
      r.tailConformant = true ∧ r.payload = s.dataList.flatMap (·.data) ∧ (∀ m', s.mask = some m' → r.mask = m') := by
  rw [QR.CapstoneE3.makeSrc_eq] at h
  obtain ⟨m, hc⟩ := (makeS_ok hg h).compiled
  obtain ⟨r, hr, a1, a2, a3, a4, a5, a6, a7, _⟩ :=
    C01_read_compile (cfgOf s fit) ⟨hver, hm⟩ l hl s.dataList hsegs ps hp s'.version m s'.modules hc
  exact ⟨r, hr, a1, a2, a4, a5, a6, fun m' hm' => a3.trans (a7 m' hm')⟩

set_option maxRecDepth 100000 in
/-- `C01_source_capstone_roundtrip` at a concrete input, evaluated by the kernel on the assembled translated definitions:
    `add_data(b"hi")` (default threshold 20), version 1-M, mask 3 - the strict ISO reader returns "hi", version 1, level M, mask 3 -/
example : (match compileCallsSrc (pyModel (fun d => d.length) id)
        (bestFitSrc modeSizesSrc (segsBitsSrc (writeBufSrc findBytes1)) Gen.BIT_LIMIT_TABLE bisectLeft checkVersionSrc 4)
        (createDataSrc (segsBitsBufSrc findBytes1) (ecOfBlockSrc rsPolyFor polyMk polyMod)) (makeImplSrc bchDigitSrc) lostPointSrc
        { version := 1, level := 0, mask := some 3, fit := false } [([104, 105], 20)] with
    | .ok (v, m, M) => (match Spec.read (symOf M) with
        | .ok r => r.version == v && r.mask == m && r.payload == [104, 105] && r.level == Spec.Level.M
        | .error _ => false)
    | _ => false) = true := by decide +kernel

end Capstone

/-- the Python functions this property's model mirrors have, in /repo's current working tree, exactly the normalised
    ASTs the model was written and validated against (fingerprints regenerated by T1 on every run) -/
theorem C01_source_fingerprints : QR.Gen.fp_C01 = QR.Pinned.fp_C01 := by decide

end QR.Props
