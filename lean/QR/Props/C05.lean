import QR.Model.Matrix
import QR.Spec.Geometry
import QR.Proofs.Total
import QR.Proofs.Symbol
import QR.Proofs.SourceTieC05
import QR.Proofs.Pinned
import QR.Proofs.SourceTieMake
import QR.Proofs.SourceTieC05MapData
import QR.Proofs.SourceTieC05Patterns
import QR.Proofs.CapstoneC05
/-
C05 - function patterns, geometry and data placement of every symbol.
Finite part: alignment table = Annex E closed form, mask functions = ISO Table 10.
Symbolic part (all 40 versions, 4 levels, 8 masks, EVERY codeword content): the matrix `makeImpl` returns is
(4v+17) x (4v+17) with every module definite; finder patterns, separators, timing patterns, alignment patterns and the
dark module hold the colours the per-cell Spec predicates (`Spec.fixedColour`: Chebyshev rings around the three finder
centres, Annex E centres, parity on row/column 6) assign - independently of data, level and mask; and the data region,
read in ISO zig-zag order over the non-function modules and unmasked (`Spec.readRaw`), is exactly the codeword bits, most
significant bit first, followed by the remainder bits, all zero.  Stated for `Model.makeImpl` (`C05_size_definite`, `C05_function`,
`C05_info`, `C05_data`: projections of `Sym.makeImpl_of_ok`) and for `Model.compile` (`C05_compile`).
`C05_source_*`: bridges, capstones and the fingerprint obligation (the three kinds are explained at the head of Props/C02.lean).
-/
namespace QR.Props

/-- `PATTERN_POSITION_TABLE` is the Annex E closed form for all 40 versions -/
theorem C05_alignment : ∀ v, v < 40 → Model.patternPosition (v + 1) = .ok (Spec.alignmentCentres (v + 1)) :=
  fun v hv => patternPosition_eq (v + 1) (by omega) (by omega)

/-- the eight mask functions of the code are the eight conditions of ISO Table 10, for all coordinates -/
theorem C05_mask : ∀ p i j, p < 8 → Model.maskFunc p i j = Spec.maskCond p i j :=
  fun p i j hp => GeoC.maskFunc_eq_maskCond p i j hp

/-- sanity of the Spec's Annex E formula: first coordinate 6, last 4v+10, count ⌊v/7⌋+2, strictly increasing -/
theorem C05_spec_alignment_sane : ∀ v, v < 39 →
    let cs := Spec.alignmentCentres (v + 2)
    cs.head? = some 6 ∧ cs.getLast? = some (4 * (v + 2) + 10) ∧ cs.length = (v + 2) / 7 + 2 ∧ cs.Pairwise (· < ·) := by
  intro v hv
  obtain ⟨mid, hcs, hlen⟩ := alignmentCentres_shape (v + 2) (by omega)
  have hs := alignmentCentres_sorted (v + 2) (by omega) (by omega)
  simp only [hcs] at hs ⊢
  refine ⟨rfl, ?_, ?_, hs.imp fun h => by omega⟩
  · rw [← List.cons_append, List.getLast?_concat]
    rfl
  · rw [List.length_cons, List.length_append, hlen]
    rfl

/-- **C05 (size, definiteness)**: for every version 1..40, level, mask, trial/final flag and EVERY list of codewords,
    `makeImpl` returns a (4v+17) x (4v+17) matrix in which every module is definite (no `None` left) -/
theorem C05_size_definite (v level mask : Nat) (test : Bool) (data : List Nat)
    (h1 : 1 ≤ v) (h40 : v ≤ 40) (hl : level < 4) (hk : mask < 8)
    (M : Model.Mat) (h : Model.makeImpl v level test mask data = .ok M) :
    M.size = 4 * v + 17 ∧ (∀ r, r < 4 * v + 17 → (M.getD r #[]).size = 4 * v + 17) ∧
    ∀ r c, r < 4 * v + 17 → c < 4 * v + 17 → (M.get r c).isSome = true := by
  have hB := Sym.makeImpl_of_ok h1 hl h
  exact ⟨hB.shape.1, hB.shape.2, hB.definite⟩

/-- **C05 (function patterns)**: in the final symbol every module to which the ISO layout assigns a fixed colour
    (`Spec.fixedColour`: finder patterns, separators, timing patterns, alignment patterns, dark module) holds that
    colour - for every data content, level and mask: function patterns are data-independent -/
theorem C05_function (v level mask : Nat) (data : List Nat)
    (h1 : 1 ≤ v) (h40 : v ≤ 40) (hl : level < 4) (hk : mask < 8)
    (M : Model.Mat) (h : Model.makeImpl v level false mask data = .ok M) :
    ∀ r c b, r < 4 * v + 17 → c < 4 * v + 17 → Spec.fixedColour v r c = some b → M.get r c = some b :=
  fun r c b hr hc hb => (Sym.makeImpl_of_ok h1 hl h).fixed h1 hr hc hb

/-- the same for the trial symbols of `best_mask_pattern` (`test = True`) and the final one alike: every fixed-colour
    module except the dark module holds its ISO colour; the dark module holds `not test` (light in a trial symbol,
    exactly as the Python code writes it) -/
theorem C05_function_any (v level mask : Nat) (test : Bool) (data : List Nat)
    (h1 : 1 ≤ v) (h40 : v ≤ 40) (hl : level < 4) (hk : mask < 8)
    (M : Model.Mat) (h : Model.makeImpl v level test mask data = .ok M) :
    (∀ r c b, r < 4 * v + 17 → c < 4 * v + 17 → Spec.fixedColour v r c = some b →
      Spec.isDarkModule (4 * v + 17) r c = false → M.get r c = some b) ∧
    M.get (4 * v + 9) 8 = some (!test) := by
  have hB := Sym.makeImpl_of_ok h1 hl h
  constructor
  · intro r c b hr hc hb hnd
    rcases Sym.fixedColour_cases v r c b hb with hb | ⟨hd, _⟩
    · exact hB.blank r c b hr hc hb
    · rw [show Spec.size v = 4 * v + 17 from rfl, hnd] at hd; cases hd
  · apply hB.info (4 * v + 9) 8 (!test) (by unfold Spec.size; omega) (by unfold Spec.size; omega)
    apply Sym.infoCell_of_isDarkModule v level mask h1 test
    simp [Spec.isDarkModule, Spec.size]

/-- format, version and dark-module cells hold the ISO words' bits (C04 transported to the finished symbol) -/
theorem C05_info (v level mask : Nat) (test : Bool) (data : List Nat)
    (h1 : 1 ≤ v) (h40 : v ≤ 40) (hl : level < 4) (hk : mask < 8)
    (M : Model.Mat) (h : Model.makeImpl v level test mask data = .ok M) :
    ∀ r c b, Spec.infoCell v level mask test r c = some b → M.get r c = some b := by
  intro r c b hb
  obtain ⟨hr, hc⟩ := GeoB.infoCell_inBounds v level mask h1 test r c b hb
  exact (Sym.makeImpl_of_ok h1 hl h).info r c b hr hc hb

/-- **C05 (data placement)**: for a full codeword sequence, the data region of the symbol - the non-function modules
    in ISO zig-zag order (two-module strips from the right, alternately upwards and downwards, skipping the vertical
    timing column), with the mask removed - is exactly the codeword bits, MSB first, followed by `remainderBits v` zero
    bits.  `S` is any Boolean view of the matrix. -/
theorem C05_data (v level mask : Nat) (test : Bool) (data : List Nat)
    (h1 : 1 ≤ v) (h40 : v ≤ 40) (hl : level < 4) (hk : mask < 8)
    (M : Model.Mat) (h : Model.makeImpl v level test mask data = .ok M)
    (hlen : data.length = Spec.totalCodewords v)
    (S : Spec.Sym) (hn : S.n = 4 * v + 17)
    (hS : ∀ r c, r < 4 * v + 17 → c < 4 * v + 17 → S.get r c = (M.get r c).getD false) :
    Spec.readRaw S v mask = Model.codewordBits data ++ List.replicate (Spec.remainderBits v) false := by
  rw [(Sym.makeImpl_of_ok h1 hl h).raw S ⟨hn, hS⟩, GeoC.padTake_codewordBits hlen]

/-- the same for a codeword list of any length: the stream is cut / zero-filled to the `rawModules v` data modules
    (`map_data` stops consuming when the bits run out and writes light (masked) modules) -/
theorem C05_data_any (v level mask : Nat) (test : Bool) (data : List Nat)
    (h1 : 1 ≤ v) (h40 : v ≤ 40) (hl : level < 4) (hk : mask < 8)
    (M : Model.Mat) (h : Model.makeImpl v level test mask data = .ok M)
    (S : Spec.Sym) (hn : S.n = 4 * v + 17)
    (hS : ∀ r c, r < 4 * v + 17 → c < 4 * v + 17 → S.get r c = (M.get r c).getD false) :
    Spec.readRaw S v mask = GeoC.padTake (Spec.rawModules v) (Model.codewordBits data) ∧
    (Spec.readRaw S v mask).length = Spec.rawModules v := by
  rw [(Sym.makeImpl_of_ok h1 hl h).raw S ⟨hn, hS⟩]
  exact ⟨rfl, GeoC.padTake_length _ _⟩

/-- cell form, not going through the reader: the `i`-th cell of the zig-zag order, if it is not a function module,
    holds bit number (non-function cells before it) of the codeword stream, xor the ISO mask condition -/
theorem C05_data_cell (v level mask : Nat) (test : Bool) (data : List Nat)
    (h1 : 1 ≤ v) (h40 : v ≤ 40) (hl : level < 4) (hk : mask < 8)
    (M : Model.Mat) (h : Model.makeImpl v level test mask data = .ok M)
    (i : Nat) (hi : i < (Spec.zigzag (4 * v + 17)).length)
    (hf : Spec.isFunction v (Spec.zigzag (4 * v + 17))[i].1 (Spec.zigzag (4 * v + 17))[i].2 = false) :
    M.get (Spec.zigzag (4 * v + 17))[i].1 (Spec.zigzag (4 * v + 17))[i].2 =
      some (xor ((Model.codewordBits data).getD
                  (((Spec.zigzag (4 * v + 17)).take i).countP fun p => !Spec.isFunction v p.1 p.2) false)
                (Spec.maskCond mask (Spec.zigzag (4 * v + 17))[i].1 (Spec.zigzag (4 * v + 17))[i].2)) :=
  (Sym.makeImpl_of_ok h1 hl h).cell i hi _ _ rfl hf

/-- **C05 for `compile`**: every symbol `make` produces - any valid configuration, level, list of valid segments - is
    (4v+17) x (4v+17), every module definite, every fixed-colour function module at its ISO colour, and its data region
    (zig-zag order, unmasked with the mask `compile` reports) is exactly the bits of the `create_data` codewords followed
    by zero remainder bits -/
theorem C05_compile (cfg : Model.Cfg) (hcfg : cfg.Valid) (l : Spec.Level) (hl : cfg.level = l.indicator)
    (segs : List Model.Seg) (hv : ∀ s ∈ segs, s.Valid) (v m : Nat) (M : Model.Mat)
    (h : Model.compile cfg segs = .ok (v, m, M)) :
    M.size = 4 * v + 17 ∧ (∀ r, r < 4 * v + 17 → (M.getD r #[]).size = 4 * v + 17) ∧
    (∀ r c, r < 4 * v + 17 → c < 4 * v + 17 → (M.get r c).isSome = true) ∧
    (∀ r c b, r < 4 * v + 17 → c < 4 * v + 17 → Spec.fixedColour v r c = some b → M.get r c = some b) ∧
    ∃ data, Model.createData v cfg.level segs = .ok data ∧ data.length = Spec.totalCodewords v ∧
      Spec.readRaw { n := M.size, get := fun r c => (M.get r c).getD false } v m =
        Model.codewordBits data ++ List.replicate (Spec.remainderBits v) false := by
  obtain ⟨ps, hp⟩ := toPSegs_of_valid hv
  have hc := R.ok_of_char (Proofs.compile_char hcfg hl hv hp) h
  have h1 : 1 ≤ v := hc.one_le
  have h40 : v ≤ 40 := hc.le_forty
  have hk : m < 8 := Nat.lt_succ_of_le hc.mask_le
  obtain ⟨data, hd, hdata, hM⟩ := hc.built
  rw [← hl] at hd hM
  have hli : cfg.level < 4 := hl ▸ l.indicator_lt
  obtain ⟨a1, a2, a3⟩ := C05_size_definite v cfg.level m false data h1 h40 hli hk M hM
  exact ⟨a1, a2, a3, C05_function v cfg.level m data h1 h40 hli hk M hM, data, hd, hdata.length,
    C05_data v cfg.level m false data h1 h40 hli hk M hM hdata.length _ a1 (fun _ _ _ _ => rfl)⟩

/-- non-vacuity of `C05_compile`: a version-1 symbol compiles; its size and version, the dark module, a timing module
    and a separator module evaluated on it -/
example : (match Model.compile { version := 1, level := 1, mask := some 2, fit := false } [{ mode := 4, data := [104, 105] }] with
    | .ok (v, _, M) => M.size == 21 && v == 1 && M.get 13 8 == some true && M.get 6 8 == some true && M.get 7 7 == some false
    | .error _ => false) = true := by decide +kernel

/-! ### Bridges (`tools/translate.py` itself: single expressions and literals) for `util.mask_func`, `map_data`, `makeImpl` -/

/-- the eight lambdas of `util.mask_func` as they stand in the source now are the ISO Table 10 conditions -/
theorem C05_source_masks (i j : Nat) :
    Gen.Code.mask_func_0 i j = Spec.maskCond 0 i j ∧ Gen.Code.mask_func_1 i j = Spec.maskCond 1 i j ∧
    Gen.Code.mask_func_2 i j = Spec.maskCond 2 i j ∧ Gen.Code.mask_func_3 i j = Spec.maskCond 3 i j ∧
    Gen.Code.mask_func_4 i j = Spec.maskCond 4 i j ∧ Gen.Code.mask_func_5 i j = Spec.maskCond 5 i j ∧
    Gen.Code.mask_func_6 i j = Spec.maskCond 6 i j ∧ Gen.Code.mask_func_7 i j = Spec.maskCond 7 i j := by
  obtain ⟨h0, h1, h2, h3, h4, h5, h6, h7⟩ := QR.SourceTie.masks i j
  exact ⟨h0.trans (C05_mask 0 i j (by omega)), h1.trans (C05_mask 1 i j (by omega)), h2.trans (C05_mask 2 i j (by omega)),
    h3.trans (C05_mask 3 i j (by omega)), h4.trans (C05_mask 4 i j (by omega)), h5.trans (C05_mask 5 i j (by omega)),
    h6.trans (C05_mask 6 i j (by omega)), h7.trans (C05_mask 7 i j (by omega))⟩

/-- `map_data`'s column loop (`range(n - 1, 0, -2)`, `if col <= 6: col -= 1`) is the model's `pairCol` -/
theorem C05_source_columns (n k : Nat) :
    Model.pairCol n k = Gen.Code.map_col_adjust (n - 1 - 2 * k) ∧ ∀ m : Int, Gen.Code.map_col_range m = (m - 1, 0, -2) := by
  refine ⟨?_, fun _ => rfl⟩
  unfold Model.pairCol Gen.Code.map_col_adjust
  by_cases h : n - 1 - 2 * k ≤ 6 <;> simp [h]

/-- `makeImpl` calls the pattern/placement helpers the model composes, in the model's order (finders, alignment, timing,
    format, version, create_data, map_data) -/
theorem C05_source_structure :
    Gen.Code.makeImpl_calls = ["self.setup_position_probe_pattern", "self.setup_position_probe_pattern",
      "self.setup_position_probe_pattern", "self.setup_position_adjust_pattern", "self.setup_timing_pattern",
      "self.setup_type_info", "self.setup_type_number", "util.create_data", "self.map_data"] :=
  rfl

/-- the colour tests, skip tests and loop ranges of the finder, alignment and timing patterns as they stand in the source
    are the ones whose painting `blank_spec` is proved for -/
theorem C05_source_patterns :
    (∀ r c : Int, Gen.Code.probe_dark r c = QR.probeDark r c) ∧ Gen.Code.probe_range = ((-1, 8), (-1, 8)) ∧
    (∀ r' c' : Nat, r' < 5 → c' < 5 →
      Gen.Code.align_dark ((r' : Int) - 2) ((c' : Int) - 2) = decide (r' = 0 ∨ r' = 4 ∨ c' = 0 ∨ c' = 4 ∨ (r' = 2 ∧ c' = 2))) ∧
    Gen.Code.align_range = ((-2, 3), (-2, 3)) ∧ Gen.Code.align_skip_test = "self.modules[row][col] is not None" ∧
    (∀ i, Gen.Code.timing_dark_0 i = decide (i % 2 = 0)) ∧ (∀ i, Gen.Code.timing_dark_1 i = decide (i % 2 = 0)) ∧
    (∀ n, Gen.Code.timing_range_0 n = (8, n - 8)) ∧ (∀ n, Gen.Code.timing_range_1 n = (8, n - 8)) := by
  refine ⟨fun r c => ?_, rfl, fun r' c' hr hc => ?_, rfl, rfl, QR.SourceTie.timing_eq.1, QR.SourceTie.timing_eq.2.1,
    QR.SourceTie.timing_eq.2.2.1, QR.SourceTie.timing_eq.2.2.2.1⟩
  -- the three-clause colour test of `setup_position_probe_pattern` is the `probeDark` whose painting is proved in Blank.lean
  · unfold Gen.Code.probe_dark QR.probeDark
    rw [Bool.eq_iff_iff]
    simp only [Bool.or_eq_true, Bool.and_eq_true, decide_eq_true_eq]
    omega
  -- the colour test of the 5x5 alignment pattern over its loop range -2..2 is the model's (shifted by 2)
  · unfold Gen.Code.align_dark
    rw [Bool.eq_iff_iff]
    simp only [Bool.or_eq_true, Bool.and_eq_true, decide_eq_true_eq]
    omega

/-! ### Bridges (plugin `frag_b.py`): the cache-miss branch and the call sequence of `QRCode.makeImpl`.  `makeImpl_src` is proved in
    QR/Proofs/SourceTieMake.lean (C11 uses it too). -/
section SourceTieB
open QR.Model QR.Gen.Code QR.SourceTieB

/-- a cache miss: `modules_count x modules_count` cells of `None`, the three finder patterns at the translated positions,
    then alignment and timing patterns -/
theorem C05_source_blank_src (version : Nat) :
    blank version = (do
      let n := makeImpl_modules_count version
      let m : Mat := Array.replicate (makeImpl_empty_dims n).1 (Array.replicate (makeImpl_empty_dims n).2 none)
      let m := (makeImpl_probe_args n).foldl (fun m p => setupProbe n m p.1.toNat p.2.toNat) m
      let pos ← patternPosition version
      pure (setupTiming n (setupAdjust m pos))) := by
  unfold blank makeImpl_modules_count makeImpl_empty_dims makeImpl_probe_args Mat.empty
  simp only [List.foldl_cons, List.foldl_nil]
  have h : ((((version * 4 + 17 : Nat) : Int) - 7).toNat) = version * 4 + 17 - 7 := by omega
  simp only [h]
  rfl

/-- the functional `makeImpl` (given the codewords) performs the same steps -/
theorem C05_source_makeImpl_src (version level : Nat) (test : Bool) (mask : Nat) (data : List Nat) :
    makeImpl version level test mask data = (do
      let n := makeImpl_modules_count version
      let m ← blank version
      let m := setupTypeInfo n level m (makeImpl_type_info_args test mask).1 (makeImpl_type_info_args test mask).2
      let m := if makeImpl_type_number_test version then setupTypeNumber n version m (makeImpl_type_number_arg test) else m
      if (makeImpl_map_args mask).2 > 7 then .error .typeError
      else pure (mapData n m data (makeImpl_map_args mask).2)) :=
  QR.SourceTieB.makeImpl_src version level test mask data

end SourceTieB

/-! ### Bridges (plugin `frag_c.py`): `QRCode.map_data`; proved in QR/Proofs/SourceTieC05MapData.lean (the capstones use them). -/
section SourceTieT
open QR.Model QR.Gen.Code QR.SourceTieT

/-- **map_data**: for every odd module count `n` (Python: `modules_count = 4 * version + 17`), every matrix, codeword list and
    mask pattern, and every fuel `≥ n` for the `while True` loops: the loop skeleton instantiated with the translated
    fragments terminates (every `while True` reaches its `break`) and leaves exactly the matrix `Model.mapData` computes. -/
theorem C05_source_mapData_src (n : Nat) (hodd : n % 2 = 1) (m : Mat) (data : List Nat) (mask fuel : Nat) (hf : n ≤ fuel) :
    srcMapData n (maskFunc mask) data fuel m = some (mapData n m data mask) :=
  QR.SourceTieT.mapData_src n hodd m data mask fuel hf

/-- the instance Python uses: `modules_count = version * 4 + 17` -/
theorem C05_source_mapData_src_version (version : Nat) (m : Mat) (data : List Nat) (mask : Nat) :
    srcMapData (version * 4 + 17) (maskFunc mask) data (version * 4 + 17) m = some (mapData (version * 4 + 17) m data mask) :=
  QR.SourceTieT.mapData_src_version version m data mask

/-- the coordinates the cell test / the write / the mask call use are the loop variables themselves (no offset) -/
theorem C05_source_map_cells_src (n dataLen col c inc row bi by_ : Int) :
    map_cell_test n dataLen col c inc row bi by_ = (row, c) ∧ map_cell_write n dataLen col c inc row bi by_ = (row, c) :=
  ⟨rfl, rfl⟩

end SourceTieT

/-! ### Bridges (plugin `frag_d6.py`, functions translated whole as `Gen.Code.lo_*`): `util.pattern_position` and the three pattern
    writers of `QRCode`; proved in QR/Proofs/SourceTieC05Patterns.lean (the capstones use them). -/
section SourceTieD6
open QR.Model QR.Gen.Code QR.SourceTieD6

/-- `util.pattern_position(version)` (`return PATTERN_POSITION_TABLE[version - 1]`): `Model.patternPosition` is the translated
    lookup in the regenerated table, for every `1 ≤ version` -/
theorem C05_source_patternPosition_src (version : Nat) (hv : 1 ≤ version) :
    patternPosition version =
      (match lo_pattern_position Gen.PATTERN_POSITION_TABLE (version : Int) with
       | some a => .ok a | none => .error .indexError) :=
  QR.SourceTieD6.patternPosition_src version hv

/-- the point the hypothesis excludes: at version 0 Python's index -1 wraps to the last row, `Model.patternPosition` reads the
    first (unreachable through `QRCode`, whose version setter validates) -/
theorem C05_source_pattern_position_zero :
    patternPosition 0 = .ok [] ∧
    lo_pattern_position Gen.PATTERN_POSITION_TABLE 0 = some [6, 30, 58, 86, 114, 142, 170] :=
  ⟨rfl, rfl⟩

/-- `QRCode.setup_position_probe_pattern(row, col)` translated whole (both loops over -1..7, both `continue` tests, the
    three-clause colour expression, both assignments) equals `Model.setupProbe`, for every size, matrix and corner -/
theorem C05_source_setupProbe_src (n : Nat) (m : Mat) (row col : Nat) :
    setupProbe n m row col = lo_setup_position_probe_pattern isSetM setM (n : Int) (row : Int) (col : Int) m :=
  QR.SourceTieD6.setupProbe_src n m row col

/-- `QRCode.setup_timing_pattern()` translated whole (column-6 loop first, then row 6; range 8 .. n-8; the `is not None`
    skips; `r % 2 == 0`) equals `Model.setupTiming`, for every size and matrix -/
theorem C05_source_setupTiming_src (n : Nat) (m : Mat) :
    setupTiming n m = lo_setup_timing_pattern isSetM setM (n : Int) m :=
  QR.SourceTieD6.setupTiming_src n m

/-- `QRCode.setup_position_adjust_pattern()` translated whole (index loops over `pos`, the `is not None` skip, the 5x5 loops
    over -2..2, the colour expression) equals `Model.setupAdjust`, for every matrix and position list -/
theorem C05_source_setupAdjust_src (m : Mat) (pos : List Nat) :
    setupAdjust m pos = lo_setup_position_adjust_pattern isSetM setM (pos.map Int.ofNat) m :=
  QR.SourceTieD6.setupAdjust_src m pos

/-- `setup_position_adjust_pattern` never writes at a negative index: every centre of `PATTERN_POSITION_TABLE` is ≥ 6 -/
theorem C05_source_adjust_positions_ge : ∀ row ∈ Gen.PATTERN_POSITION_TABLE, ∀ p ∈ row, 6 ≤ p := by
  decide

/-- `Model.blank version` (the function patterns `makeImpl` builds on a cache miss) is the composition of the three
    translated pattern writers of qrcode/main.py at the translated `pattern_position(version)`, for every version ≥ 1 -/
theorem C05_source_blank_patterns_src (version : Nat) (hv : 1 ≤ version) :
    blank version =
      (match lo_pattern_position Gen.PATTERN_POSITION_TABLE (version : Int) with
       | none => .error .indexError
       | some pos =>
         let n := version * 4 + 17
         let P := fun (m : Mat) (row col : Nat) =>
           lo_setup_position_probe_pattern isSetM setM (n : Int) (row : Int) (col : Int) m
         .ok (lo_setup_timing_pattern isSetM setM (n : Int)
               (lo_setup_position_adjust_pattern isSetM setM (pos.map Int.ofNat)
                 (P (P (P (Mat.empty n) 0 0) (n - 7) 0) 0 (n - 7))))) :=
  QR.SourceTieD6.blank_patterns_src version hv

end SourceTieD6

/-! ### Capstones over `blankSrc` (QR/Proofs/SourceTieC05Patterns.lean), `maskFuncSrc`, `makeImplSrc` (CapstoneC05.lean): names for the
    right-hand sides of the bridges above. -/
section Capstone
open QR.Model QR.Gen.Code QR.SourceTieT QR.SourceTieD6 QR.CapstoneE2

theorem C05_source_blankSrc_eq (v : Nat) (hv : 1 ≤ v) : blankSrc v = blank v :=
  (C05_source_blank_patterns_src v hv).symm

/-- the source-assembled `makeImpl` (function patterns, format / version information with the source-assembled BCH functions,
    translated `map_data` skeleton with the translated mask lambdas) is `Model.makeImpl`, for every version ≥ 1: a composition of
    `C05_source_makeImpl_src`, `C05_source_blank_patterns_src`, `C04_source_setupTypeInfoSrc_eq`, `C04_source_setupTypeNumberSrc_eq`,
    `C05_source_mapData_src_version` and `maskFuncSrc_eq`; proved in QR/Proofs/CapstoneC05.lean (the whole-compile capstones use
    it as well) -/
theorem C05_source_makeImplSrc_eq (v level : Nat) (test : Bool) (mask : Nat) (data : List Nat) (hv : 1 ≤ v) :
    makeImplSrc bchDigit v level test mask data = makeImpl v level test mask data :=
  makeImplSrc_eq v level test mask data hv

/-- **capstone, main.py:QRCode.makeImpl given the codewords** (covers main.py:setup_position_probe_pattern,
    setup_position_adjust_pattern, setup_timing_pattern - translated whole -, util.py:pattern_position, main.py:setup_type_info,
    setup_type_number, util.py:BCH_type_info, BCH_type_number, main.py:map_data, the eight lambdas of util.py:mask_func, and the
    call sequence / arguments / `version >= 7` test of makeImpl; NOT covered, i.e. hand-assembled or parameter: `BCH_digit`
    (= `Model.bchDigit`, tied by `C04_source_bchDigit_src_while`), the `if pattern == k` dispatch of `mask_func`, the
    `precomputed_qr_blanks` cache (a cache miss is modelled), the `for`/`while` skeletons of the hand-written assemblers):
    for every version 1..40, level, mask, test flag and EVERY codeword list the source-assembled `makeImpl` succeeds and
    returns a (4v+17) x (4v+17) matrix in which every module is definite; from `C05_source_makeImplSrc_eq`,
    `makeImpl_ok_iff` and `C05_size_definite`. -/
theorem C05_source_capstone_size_definite (v level mask : Nat) (test : Bool) (data : List Nat)
    (h1 : 1 ≤ v) (h40 : v ≤ 40) (hl : level < 4) (hk : mask < 8) :
    ∃ M, makeImplSrc bchDigit v level test mask data = .ok M ∧
      M.size = 4 * v + 17 ∧ (∀ r, r < 4 * v + 17 → (M.getD r #[]).size = 4 * v + 17) ∧
      ∀ r c, r < 4 * v + 17 → c < 4 * v + 17 → (M.get r c).isSome = true := by
  obtain ⟨M, hM⟩ := (makeImpl_ok_iff v level test mask data).2 ⟨h40, hk⟩
  exact ⟨M, (C05_source_makeImplSrc_eq v level test mask data h1).trans hM,
    C05_size_definite v level mask test data h1 h40 hl hk M hM⟩

/-- **capstone, same chain: function patterns** - in the final symbol built by the source-assembled `makeImpl` every module to
    which the ISO layout assigns a fixed colour (`Spec.fixedColour`: finder patterns, separators, timing patterns, alignment
    patterns, dark module) holds that colour, for every data content, level and mask; from `C05_source_makeImplSrc_eq` and
    `C05_function`. -/
theorem C05_source_capstone_function (v level mask : Nat) (data : List Nat)
    (h1 : 1 ≤ v) (h40 : v ≤ 40) (hl : level < 4) (hk : mask < 8)
    (M : Mat) (h : makeImplSrc bchDigit v level false mask data = .ok M) :
    ∀ r c b, r < 4 * v + 17 → c < 4 * v + 17 → Spec.fixedColour v r c = some b → M.get r c = some b := by
  rw [C05_source_makeImplSrc_eq v level false mask data h1] at h
  exact C05_function v level mask data h1 h40 hl hk M h

/-- **capstone, same chain: data placement** - for a full codeword sequence the data region of the symbol built by the
    source-assembled `makeImpl` (non-function modules in ISO zig-zag order, mask removed: `Spec.readRaw`) is exactly the codeword
    bits, MSB first, followed by `remainderBits v` zero bits; from `C05_source_makeImplSrc_eq` and `C05_data`. -/
theorem C05_source_capstone_data (v level mask : Nat) (test : Bool) (data : List Nat)
    (h1 : 1 ≤ v) (h40 : v ≤ 40) (hl : level < 4) (hk : mask < 8)
    (M : Mat) (h : makeImplSrc bchDigit v level test mask data = .ok M)
    (hlen : data.length = Spec.totalCodewords v)
    (S : Spec.Sym) (hn : S.n = 4 * v + 17)
    (hS : ∀ r c, r < 4 * v + 17 → c < 4 * v + 17 → S.get r c = (M.get r c).getD false) :
    Spec.readRaw S v mask = codewordBits data ++ List.replicate (Spec.remainderBits v) false := by
  rw [C05_source_makeImplSrc_eq v level test mask data h1] at h
  exact C05_data v level mask test data h1 h40 hl hk M h hlen S hn hS

/-- **capstone, same chain: format / version information in the finished symbol** - every format, version and dark-module cell
    of the symbol built by the source-assembled `makeImpl` holds the bit of the ISO word (`Spec.infoCell`); from
    `C05_source_makeImplSrc_eq` and `C05_info`. -/
theorem C05_source_capstone_info (v level mask : Nat) (test : Bool) (data : List Nat)
    (h1 : 1 ≤ v) (h40 : v ≤ 40) (hl : level < 4) (hk : mask < 8)
    (M : Mat) (h : makeImplSrc bchDigit v level test mask data = .ok M) :
    ∀ r c b, Spec.infoCell v level mask test r c = some b → M.get r c = some b := by
  rw [C05_source_makeImplSrc_eq v level test mask data h1] at h
  exact C05_info v level mask test data h1 h40 hl hk M h

/-- **capstone, main.py:setup_position_probe_pattern / setup_position_adjust_pattern / setup_timing_pattern (translated whole)
    at util.py:pattern_position(version)**: for every version 1..40 the three translated pattern writers, applied to the empty
    matrix in the order of `makeImpl`, succeed and produce a (4v+17)-square matrix each of whose cells is exactly what the ISO
    geometry prescribes (`Spec.blankCell`: finder patterns + separators, alignment patterns at the Annex E centres, timing
    patterns, `None` everywhere else); from `C05_source_blank_patterns_src` and `QR.blank_spec`. -/
theorem C05_source_capstone_function_patterns (v : Nat) (h1 : 1 ≤ v) (h40 : v ≤ 40) :
    ∃ B, blankSrc v = .ok B ∧ MatShape B (Spec.size v) ∧
      ∀ r c, r < Spec.size v → c < Spec.size v → B.get r c = Spec.blankCell v r c := by
  rw [C05_source_blankSrc_eq v h1]
  exact blank_spec v h1 h40

/-- **capstone, main.py:QRCode.map_data with the lambdas of util.py:mask_func** (the translated fragments of `map_data` run by the
    hand-written loop skeleton `srcMapData`, every `while True` with fuel ≥ modules_count; mask = the translated lambda; the
    `if pattern == k` dispatch is not translated): on ANY matrix of the right shape whose `None` cells are exactly the
    non-function modules, for every mask 0..7 and codeword list, the loops terminate and the result keeps the shape, leaves every
    function module unchanged, holds in the `i`-th cell of the ISO zig-zag order (when not a function module) bit number
    (non-function cells before it) of the codeword stream xor the ISO mask condition, and is read by the Spec reader
    (`Spec.readRaw`, any symbol showing it) as the codeword bits cut / zero-filled to `rawModules v`; from
    `C05_source_mapData_src`, `maskFuncSrc_eq` and `QR.GeoC.mapData_shape / mapData_function_unchanged / mapData_nth /
    readRaw_mapData`. -/
theorem C05_source_capstone_map_data (v mask : Nat) (h1 : 1 ≤ v) (h40 : v ≤ 40) (hk : mask < 8) (m : Mat)
    (hs : MatShape m (Spec.size v)) (hm : GeoC.NoneIffData v m) (data : List Nat) (fuel : Nat) (hf : Spec.size v ≤ fuel) :
    ∃ M, srcMapData (Spec.size v) (maskFuncSrc mask) data fuel m = some M ∧ MatShape M (Spec.size v) ∧
      (∀ r c, r < Spec.size v → c < Spec.size v → Spec.isFunction v r c = true → M.get r c = m.get r c) ∧
      (∀ i (hi : i < (Spec.zigzag (Spec.size v)).length),
        Spec.isFunction v (Spec.zigzag (Spec.size v))[i].1 (Spec.zigzag (Spec.size v))[i].2 = false →
        M.get (Spec.zigzag (Spec.size v))[i].1 (Spec.zigzag (Spec.size v))[i].2 =
          some (xor ((codewordBits data).getD
                      (((Spec.zigzag (Spec.size v)).take i).countP fun p => !Spec.isFunction v p.1 p.2) false)
                    (Spec.maskCond mask (Spec.zigzag (Spec.size v))[i].1 (Spec.zigzag (Spec.size v))[i].2))) ∧
      ∀ S : Spec.Sym, GeoC.Shows S (Spec.size v) M →
        Spec.readRaw S v mask = GeoC.padTake (Spec.rawModules v) (codewordBits data) := by
  have hodd : Spec.size v % 2 = 1 := by unfold Spec.size; omega
  refine ⟨mapData (Spec.size v) m data mask, ?_, GeoC.mapData_shape _ _ _ hs _, ?_, ?_, ?_⟩
  · rw [maskFuncSrc_eq mask hk]
    exact C05_source_mapData_src (Spec.size v) hodd m data mask fuel hf
  · exact fun r c hr hc hfn => GeoC.mapData_function_unchanged v mask m hs hm data r c hr hc hfn
  · exact fun i hi hfn => GeoC.mapData_nth v mask hk m hs hm data i hi hfn
  · exact fun S hS => GeoC.readRaw_mapData v mask h1 h40 hk m hs hm data S hS

/-- **capstone, util.py:mask_func**: the `p`-th translated lambda is the `p`-th condition of ISO Table 10, for all coordinates;
    from `maskFuncSrc_eq` (the selected lambda is `Model.maskFunc p`) and `C05_mask`. -/
theorem C05_source_capstone_mask_func (p i j : Nat) (hp : p < 8) : maskFuncSrc p i j = Spec.maskCond p i j := by
  rw [maskFuncSrc_eq p hp]
  exact C05_mask p i j hp

set_option maxRecDepth 100000 in
/-- the capstones at a concrete input: version 1-M, mask 2, the 26 final codewords of the ISO Annex I example "01234567": the
    source-assembled `makeImpl` is evaluated; size, dark module, a timing module, a separator module, and the Spec reader's raw
    sequence = the codeword bits (version 1 has no remainder bits) -/
example : (match makeImplSrc bchDigit 1 Spec.Level.M.indicator false 2
      [0x10, 0x20, 0x0C, 0x56, 0x61, 0x80, 0xEC, 0x11, 0xEC, 0x11, 0xEC, 0x11, 0xEC, 0x11, 0xEC, 0x11,
       0xA5, 0x24, 0xD4, 0xC1, 0xED, 0x36, 0xC7, 0x87, 0x2C, 0x55] with
    | .ok M => M.size == 21 && M.get 13 8 == some true && M.get 6 8 == some true && M.get 7 7 == some false &&
        Spec.readRaw { n := M.size, get := fun r c => (M.get r c).getD false } 1 2 ==
          codewordBits [0x10, 0x20, 0x0C, 0x56, 0x61, 0x80, 0xEC, 0x11, 0xEC, 0x11, 0xEC, 0x11, 0xEC, 0x11, 0xEC, 0x11,
            0xA5, 0x24, 0xD4, 0xC1, 0xED, 0x36, 0xC7, 0x87, 0x2C, 0x55]
    | .error _ => false) = true := by decide +kernel

end Capstone

/-- the Python functions this property's model mirrors have, in /repo's current working tree, exactly the normalised
    ASTs the model was written and validated against (fingerprints regenerated by T1 on every run) -/
theorem C05_source_fingerprints : QR.Gen.fp_C05 = QR.Pinned.fp_C05 := by decide

end QR.Props
