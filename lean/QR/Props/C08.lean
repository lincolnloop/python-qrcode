import QR.Proofs.Penalty
import QR.Proofs.Pinned
import QR.Proofs.SourceTieC08
import QR.Proofs.SourceTieC08Rule3
/-
C08 - the penalty score the library uses to rank masks equals the ISO 18004 definition, for EVERY square matrix
(any side n ≥ 1, not only QR sizes).  Model.lostPoint mirrors util.lost_point with its histogram, `next(iter)` skipping
and Horspool shift; Spec.penalty is the plain ISO count (runs, 2x2 blocks, 11-module windows, 5 % steps).
Rule 4 of the model is the integer form of the code's float formula (tied exhaustively over all QR sizes x dark counts
by the correspondence check).  Main: `C08_lost_point`, the sum of `C08_rule1` … `C08_rule4`.
`C08_source_*`: bridges, capstones and the fingerprint obligation (the three kinds are explained at the head of Props/C02.lean).
-/
namespace QR.Props
open QR.Model

/-- **C08**: `lost_point(M) = N1 + N2 + N3 + N4` for every n x n Boolean matrix, n ≥ 1 -/
theorem C08_lost_point (M : BMat) (n : Nat) (hn : 1 ≤ n) (hlen : M.length = n) (hrow : ∀ row ∈ M, row.length = n) :
    lostPoint M = Spec.penalty M :=
  QR.Proofs.Penalty.lostPoint_eq_penalty M n hn hlen hrow

/-- rule 1 alone: runs of L ≥ 5 same-colour modules score L − 2 (rows and columns) -/
theorem C08_rule1 (M : BMat) (n : Nat) (hlen : M.length = n) (hrow : ∀ row ∈ M, row.length = n) :
    level1 M n = Spec.N1 M n := QR.Proofs.Penalty.level1_eq M n hlen hrow

/-- rule 2 alone: 3 per monochrome 2x2 block; the column skipping of the scanner is sound (any row lengths) -/
theorem C08_rule2 (M : BMat) : level2 M = Spec.N2 M := QR.Proofs.Penalty.level2_eq M

/-- rule 3 alone: 40 per 1:1:3:1:1 window with four light modules on one side; the Horspool skip is sound -/
theorem C08_rule3 (M : BMat) (n : Nat) : level3 M n = Spec.N3 M n := QR.Proofs.Penalty.level3_eq M n

/-- rule 4 alone (integer form): 10 per full 5 % step of the dark proportion away from 50 % -/
theorem C08_rule4 (M : BMat) (n : Nat) (hn : 0 < n) (hlen : M.length = n) (hrow : ∀ row ∈ M, row.length = n) :
    level4 M n = Spec.N4 M n :=
  QR.Proofs.Penalty.level4_eq M n hn (QR.Proofs.Penalty.darkCount_le M n hlen hrow)

/-- non-vacuity: a 6x6 matrix with a long run, a 2x2 block and a skewed dark ratio satisfies the hypotheses and has a positive ISO score -/
example : let M : BMat := [[true,true,true,true,true,true],[true,true,false,false,false,false],[false,true,false,true,false,true],
                           [true,false,true,false,true,false],[false,false,false,false,false,true],[true,false,true,true,false,true]]
    M.length = 6 ∧ (∀ row ∈ M, row.length = 6) ∧ 0 < Spec.penalty M := by decide

/-! ### Bridges (`tools/translate.py` itself: single expressions and literals) for the window tests and weights of the scanners -/

/-- the window test, skip test and weights of the scanners as they stand in the source (rows AND columns) -/
theorem C08_source_rules :
    (∀ a0 a1 a2 a3 a4 a5 a6 a7 a8 a9 a10 : Bool,
      Gen.Code.l3_row_cond a0 a1 a2 a3 a4 a5 a6 a7 a8 a9 a10 = cond3 a0 a1 a2 a3 a4 a5 a6 a7 a8 a9 a10 ∧
      Gen.Code.l3_col_cond a0 a1 a2 a3 a4 a5 a6 a7 a8 a9 a10 = cond3 a0 a1 a2 a3 a4 a5 a6 a7 a8 a9 a10 ∧
      Gen.Code.l3_row_skip a0 a1 a2 a3 a4 a5 a6 a7 a8 a9 a10 = a10 ∧ Gen.Code.l3_col_skip a0 a1 a2 a3 a4 a5 a6 a7 a8 a9 a10 = a10) ∧
    Gen.Code.l3_row_weight = 40 ∧ Gen.Code.l3_col_weight = 40 ∧ Gen.Code.l2_weight = 3 ∧ Gen.Code.l1_threshold = 5 ∧
    (∀ cnt len, Gen.Code.l1_term cnt len = cnt * (len - 2)) ∧ (∀ n, Gen.Code.l1_range n = (5, n + 1)) :=
  ⟨fun _ _ _ _ _ _ _ _ _ _ _ => ⟨rfl, rfl, rfl, rfl⟩, rfl, rfl, rfl, rfl, fun _ _ => rfl, fun _ => rfl⟩

/-! ### Bridges (plugin `frag_c.py`): `_lost_point_level1`, `_lost_point_level2`, `_lost_point_level4`; proved in
    QR/Proofs/SourceTieC08.lean. -/
section SourceTieT
open QR.Gen.Code QR.SourceTieT

/-- the four comparisons, the skip and the weight of the translated body, spelled out -/
theorem C08_source_lp2_body_src (f g : Nat → Bool) (col lost : Nat) :
    lp2_body f g col lost =
      if f (col + 1) ≠ g (col + 1) then (true, lost)
      else if f (col + 1) ≠ f col then (false, lost)
      else if f (col + 1) ≠ g col then (false, lost)
      else (false, lost + l2_weight) :=
  QR.SourceTieT.lp2_body_src f g col lost

/-- **`_lost_point_level2`**: on an `n × n` matrix the Model's list recursion equals the translated source (outer `for row in
    range(n - 1)`, inner `for col in iter(range(n - 1))` with the translated body, `lost_point` threaded through) -/
theorem C08_source_lostPointLevel2_src (M : BMat) (n : Nat) (hlen : M.length = n) (hrow : ∀ row ∈ M, row.length = n) :
    level2 M = level2Src M n :=
  QR.SourceTieT.lostPointLevel2_src M n hlen hrow

/-- the translated step / flush of both scanners are the same function of the cell they read -/
theorem C08_source_lp1_step_src (m : Nat → Nat → Bool) (o i : Nat) (p : Bool) (len : Nat) (c : List Nat) :
    lp1_row_step m o i p len c = lp1_lineStep (m o i) (p, len, c) ∧ lp1_col_step m o i p len c = lp1_lineStep (m i o) (p, len, c) ∧
    lp1_row_flush m o p len c = lp1_lineFlush (p, len, c) ∧ lp1_col_flush m o p len c = lp1_lineFlush (p, len, c) ∧
    lp1_row_init m o = (m o 0, 0) ∧ lp1_col_init m o = (m 0 o, 0) :=
  QR.SourceTieT.lp1_step_src m o i p len c

/-- **`_lost_point_level1`**: on an `n × n` matrix the Model (`lineRuns` of all rows and columns, histogram by `count`,
    weighted sum) equals the translated source (row scanners and column scanners updating `container`, final sum) -/
theorem C08_source_lostPointLevel1_src (M : BMat) (n : Nat) (hlen : M.length = n) (hrow : ∀ row ∈ M, row.length = n) :
    level1 M n = level1Src M n :=
  QR.SourceTieT.lostPointLevel1_src M n hlen hrow

/-- `sum(map(sum, modules))` is the Model's dark count -/
theorem C08_source_lp4_dark_count_src (M : BMat) : lp4_dark_count M = darkCount M :=
  QR.SourceTieT.lp4_dark_count_src M

/-- **`_lost_point_level4`**: the Model's integer form equals the EXACT (rational-arithmetic) value of the translated Python
    expression `int(abs(float(dark_count) / modules_count ** 2 * 100 - 50) / 5) * 10`, for every matrix and every `n`.
    (Assumption outside Lean: the IEEE double evaluation yields the same integer as the exact evaluation.) -/
theorem C08_source_lostPointLevel4_src (M : BMat) (n : Nat) :
    (level4 M n : Int) = lp4_result (lp4_dark_count M) n :=
  QR.SourceTieT.lostPointLevel4_src M n

end SourceTieT

/-! ### Bridges (plugin `frag_d3.py`): `_lost_point_level3` with its two loops and iterator skipping, and `lost_point` as a whole;
    proved in QR/Proofs/SourceTieC08Rule3.lean. -/
section SourceTieD3
open QR.Gen.Code QR.SourceTieT QR.SourceTieD3

/-- the translated body of the ROW pass of `util._lost_point_level3` (`for col in modules_range_short_iter`, reading
    `this_row[col + k]` = `modules[row][col + k]`) is the Model's window test `cond3`, weight 40 and Horspool skip (`stepSpec`) -/
theorem C08_source_row_step_src (m : Nat → Nat → Bool) (row col lost : Nat) :
    l3f_row_step m row col lost = stepSpec (fun c => m row c) col lost :=
  QR.SourceTieD3.row_step_src m row col lost

/-- the translated body of the COLUMN pass of `util._lost_point_level3` (`for row in modules_range_short_iter`, reading
    `modules[row + k][col]`) is the Model's window test `cond3`, weight 40 and Horspool skip (`stepSpec`) -/
theorem C08_source_col_step_src (m : Nat → Nat → Bool) (col row lost : Nat) :
    l3f_col_step m col row lost = stepSpec (fun r => m r col) row lost :=
  QR.SourceTieD3.col_step_src m col row lost

/-- the literals of the translation of `util._lost_point_level3`: `range(modules_count)`, `range(modules_count - 10)`,
    `lost_point = 0`, the dead stores `col = 0` / `row = 0`, order and kind of the statements before each inner loop -/
theorem C08_source_level3_literals :
    (∀ n, l3f_range0_stop n = (n : Int)) ∧ (∀ n, l3f_range1_stop n = (n : Int) - 10) ∧ l3f_init = 0 ∧
    l3f_row_dead_init = 0 ∧ l3f_col_dead_init = 0 ∧
    l3f_row_prologue = ["alias this_row", "iter modules_range_short_iter", "init col"] ∧
    l3f_col_prologue = ["iter modules_range_short_iter", "init row"] :=
  ⟨fun _ => rfl, fun _ => rfl, rfl, rfl, rfl, rfl, rfl⟩

/-- **`util._lost_point_level3`, complete** = `Model.level3`: on every `n × n` matrix (every `n ≥ 0`) the Model's list
    recursion `l3scan` over all rows and columns equals the translated source (both passes, `iter(range(n - 10))`, the
    translated bodies, `next(it, None)` as one more advance of the iterator position) -/
theorem C08_source_lostPointLevel3_src (M : BMat) (n : Nat) (hlen : M.length = n) (hrow : ∀ row ∈ M, row.length = n) :
    level3 M n = l3f_level3 (lp_cell M) n :=
  QR.SourceTieD3.lostPointLevel3_src M n hlen hrow

/-- both inner loops of `util._lost_point_level3` (`for col/row in modules_range_short_iter` with `next(it, None)` inside)
    terminate, and the fuel the translated `l3f_level3` runs them with gives the result of the fuel-free semantics `IterFor` -/
theorem C08_source_inner_loops_terminate (m : Nat → Nat → Bool) (o stop lost : Nat) :
    IterFor stop (l3f_row_step m o) 0 lost (l3f_iter_run stop (l3f_row_step m o) stop 0 lost) ∧
    IterFor stop (l3f_col_step m o) 0 lost (l3f_iter_run stop (l3f_col_step m o) stop 0 lost) :=
  ⟨iter_run_sound stop _ (fun p a => (steps_advance m o p a).1) stop 0 lost (by omega),
   iter_run_sound stop _ (fun p a => (steps_advance m o p a).2) stop 0 lost (by omega)⟩

/-- the callees of `util.lost_point`, in call order -/
theorem C08_source_lost_point_literals : l3f_lost_point_callees =
    ["_lost_point_level1", "_lost_point_level2", "_lost_point_level3", "_lost_point_level4"] :=
  rfl

/-- **`util.lost_point`** = `Model.lostPoint`: the translated function (`len(modules)`, the four calls and their sum, in
    statement order) applied to the four TRANSLATED scanners, for every square matrix -/
theorem C08_source_lost_point_src (M : BMat) (hrow : ∀ row ∈ M, row.length = M.length) :
    lostPoint M = l3f_lost_point List.length level1Src level2Src (fun M n => l3f_level3 (lp_cell M) n)
      (fun M n => (lp4_result (lp4_dark_count M) n).toNat) M :=
  QR.SourceTieD3.lostPoint_src M hrow

end SourceTieD3

/-! ### Capstones: the translated source itself satisfies the ISO statement, for all inputs; no `QR.Model` function occurs in a
    conclusion. `level1Src` / `level2Src` (QR/Proofs/SourceTieC08.lean) are the translated fragments of
    `_lost_point_level1` / `_lost_point_level2` (`lp1_*`, `l1_*`, `lp2_*` of `Gen.Code`) assembled by the loop
    combinators written there (`foldl` over `range`, `lp2_iterLoop` for `next(it)`); `lp_cell M r c` is `modules[r][c]`. -/
section Capstone
open QR.Gen.Code QR.SourceTieT

/-- **capstone, `qrcode/util.py:lost_point`** (with all four callees `_lost_point_level1..4` TRANSLATED; rule 4 through the
    exact-arithmetic reading of its float expression, see `C08_source_lostPointLevel4_src`): for every `n × n` matrix,
    `n ≥ 1`, the translated `lost_point` returns the ISO 18004 penalty `Spec.penalty M = N1 + N2 + N3 + N4`.
    From `C08_source_lost_point_src` and `C08_lost_point`. -/
theorem C08_source_capstone_lost_point (M : BMat) (n : Nat) (hn : 1 ≤ n) (hlen : M.length = n)
    (hrow : ∀ row ∈ M, row.length = n) :
    l3f_lost_point List.length level1Src level2Src (fun M n => l3f_level3 (lp_cell M) n)
      (fun M n => (lp4_result (lp4_dark_count M) n).toNat) M = Spec.penalty M := by
  rw [← C08_source_lost_point_src M (fun row h => (hrow row h).trans hlen.symm)]
  exact C08_lost_point M n hn hlen hrow

/-- **capstone, `qrcode/util.py:_lost_point_level3`** (complete: both passes, `iter(range(n - 10))`, `next(it, None)`): on every
    `n × n` matrix (every `n ≥ 0`) the translated function returns ISO rule 3, `Spec.N3 M n` = 40 per 1:1:3:1:1 window with
    four light modules on one side, rows and columns. From `C08_source_lostPointLevel3_src` and `C08_rule3`. -/
theorem C08_source_capstone_rule3 (M : BMat) (n : Nat) (hlen : M.length = n) (hrow : ∀ row ∈ M, row.length = n) :
    l3f_level3 (lp_cell M) n = Spec.N3 M n := by
  rw [← C08_source_lostPointLevel3_src M n hlen hrow]
  exact C08_rule3 M n

/-- **capstone, `qrcode/util.py:_lost_point_level1`** (translated fragments assembled as `level1Src`): on every `n × n` matrix the
    source returns ISO rule 1, `Spec.N1 M n` = L − 2 per run of L ≥ 5 same-colour modules, rows and columns.
    From `C08_source_lostPointLevel1_src` and `C08_rule1`. -/
theorem C08_source_capstone_rule1 (M : BMat) (n : Nat) (hlen : M.length = n) (hrow : ∀ row ∈ M, row.length = n) :
    level1Src M n = Spec.N1 M n := by
  rw [← C08_source_lostPointLevel1_src M n hlen hrow]
  exact C08_rule1 M n hlen hrow

/-- **capstone, `qrcode/util.py:_lost_point_level2`** (translated fragments assembled as `level2Src`): on every `n × n` matrix the
    source returns ISO rule 2, `Spec.N2 M` = 3 per monochrome 2x2 block. From `C08_source_lostPointLevel2_src` and `C08_rule2`. -/
theorem C08_source_capstone_rule2 (M : BMat) (n : Nat) (hlen : M.length = n) (hrow : ∀ row ∈ M, row.length = n) :
    level2Src M n = Spec.N2 M := by
  rw [← C08_source_lostPointLevel2_src M n hlen hrow]
  exact C08_rule2 M

/-- **capstone, `qrcode/util.py:_lost_point_level4`**: on every `n × n` matrix, `n ≥ 1`, the EXACT (rational-arithmetic) value of the
    translated expression `int(abs(float(dark_count) / modules_count ** 2 * 100 - 50) / 5) * 10` with the translated
    `dark_count = sum(map(sum, modules))` is ISO rule 4, `Spec.N4 M n` = 10 per full 5 % step away from 50 % dark.
    (Outside Lean, as in `C08_source_lostPointLevel4_src`: IEEE double evaluation gives the same integer.)
    From `C08_source_lostPointLevel4_src` and `C08_rule4`. -/
theorem C08_source_capstone_rule4 (M : BMat) (n : Nat) (hn : 0 < n) (hlen : M.length = n)
    (hrow : ∀ row ∈ M, row.length = n) :
    lp4_result (lp4_dark_count M) n = (Spec.N4 M n : Int) := by
  rw [← C08_source_lostPointLevel4_src M n, C08_rule4 M n hn hlen hrow]

/-- the capstones at a concrete 6x6 matrix (a long run, a 2x2 block, skewed dark ratio): the translated `lost_point`
    is the ISO penalty of that matrix, which is 10 -/
example : let M : BMat := [[true,true,true,true,true,true],[true,true,false,false,false,false],[false,true,false,true,false,true],
                           [true,false,true,false,true,false],[false,false,false,false,false,true],[true,false,true,true,false,true]]
    l3f_lost_point List.length level1Src level2Src (fun M n => l3f_level3 (lp_cell M) n)
      (fun M n => (lp4_result (lp4_dark_count M) n).toNat) M = Spec.penalty M ∧ Spec.penalty M = 10 :=
  ⟨C08_source_capstone_lost_point _ 6 (by decide) rfl (by decide), by decide⟩

/-- the same evaluated directly by the kernel on the translated definitions -/
example : l3f_lost_point List.length level1Src level2Src (fun M n => l3f_level3 (lp_cell M) n)
      (fun M n => (lp4_result (lp4_dark_count M) n).toNat)
      [[true,true,true,true,true,true],[true,true,false,false,false,false],[false,true,false,true,false,true],
       [true,false,true,false,true,false],[false,false,false,false,false,true],[true,false,true,true,false,true]] = 10 := by decide

end Capstone

/-- the Python functions this property's model mirrors have, in /repo's current working tree, exactly the normalised
    ASTs the model was written and validated against (fingerprints regenerated by T1 on every run) -/
theorem C08_source_fingerprints : QR.Gen.fp_C08 = QR.Pinned.fp_C08 := by decide

end QR.Props
