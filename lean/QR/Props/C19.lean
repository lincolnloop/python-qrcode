import QR.Model.Threads
import QR.Proofs.Pinned
/-
C19 - independent objects are thread-safe under every interleaving of the shared accesses.
Atomicity granularity (single dict operations under the GIL) and completeness of the shared-state inventory are
assumptions, validated by the deterministic scheduler and the static inventory of the check.  One theorem, `C19_schedule_independent`,
by induction on the schedule over the single access `stepThr_spec`; no bridge and no capstone (runtime-bound), only the fingerprint
obligation (head of Props/C02.lean).
-/
namespace QR.Props
open QR.Model

/-- the cache holds nothing but the blank of its key -/
def SharedInv (blankOf : Nat → Mat) (sh : Shared) : Prop := ∀ v b, sh.blanks v = some b → b = blankOf v

/-- everything a thread has observed so far is the blank of the version it asked for -/
def LogOK (blankOf : Nat → Mat) (t : Thr) : Prop := ∀ e ∈ t.log, e.2 = some (blankOf e.1)

/-- while a thread sits between its membership test and its read, the entry it saw is still there (nobody deletes) -/
def PhaseOK (sh : Shared) (t : Thr) : Prop :=
  t.phase = .load → ∀ v rest, t.todo = v :: rest → (sh.blanks v).isSome = true

/-- one atomic access of a thread: the cache stays sound and loses nothing, the thread has logged nothing but the blank of the
    version it asked for, and it sits before a read only if it has just seen the entry -/
theorem stepThr_spec (blankOf : Nat → Mat) (sh : Shared) (t : Thr) (hs : SharedInv blankOf sh)
    (hl : LogOK blankOf t) (hp : PhaseOK sh t) :
    SharedInv blankOf (stepThr blankOf sh t).1 ∧ LogOK blankOf (stepThr blankOf sh t).2 ∧
      PhaseOK (stepThr blankOf sh t).1 (stepThr blankOf sh t).2 ∧
      ∀ w, (sh.blanks w).isSome = true → ((stepThr blankOf sh t).1.blanks w).isSome = true := by
  -- what a finished `makeImpl` appends to the log
  have hlog : ∀ (v : Nat) (b : Option Mat), b = some (blankOf v) → ∀ e ∈ t.log ++ [(v, b)], e.2 = some (blankOf e.1) := by
    intro v b hb e he
    rcases List.mem_append.mp he with he | he
    · exact hl e he
    · rw [List.mem_singleton.mp he]
      exact hb
  unfold stepThr
  cases htodo : t.todo with
  | nil => exact ⟨hs, hl, hp, fun _ h => h⟩
  | cons v rest =>
    cases hph : t.phase with
    | probe =>
      simp only
      split
      · rename_i hsome
        refine ⟨hs, hl, fun _ v' rest' hv' => ?_, fun _ h => h⟩
        cases hv'
        exact hsome
      · exact ⟨hs, hl, fun hc => (nomatch hc), fun _ h => h⟩
    | load =>
      -- the entry seen by the membership test is still there, and it is the blank
      refine ⟨hs, hlog v _ ?_, fun hc => (nomatch hc), fun _ h => h⟩
      have hsome := hp hph v rest htodo
      cases hb : sh.blanks v with
      | none => rw [hb] at hsome; cases hsome
      | some b => rw [hs v b hb]
    | store =>
      refine ⟨fun w b hw => ?_, hlog v _ rfl, fun hc => (nomatch hc), fun w h => ?_⟩
      · by_cases hwv : w = v
        · simp only [hwv, if_true, Option.some.injEq] at hw
          rw [← hw, hwv]
        · simp only [hwv, if_false] at hw
          exact hs w b hw
      · by_cases hwv : w = v
        · simp only [hwv, if_true, Option.isSome_some]
        · simp only [hwv, if_false, h]

/-- **C19 (schedule independence of the model)**: for any number of threads, any programs and ANY schedule, starting
    from a cache that satisfies the invariant (e.g. cold, or warmed by earlier correct compiles), every makeImpl of every
    thread starts from exactly the blank of its version - i.e. from what it obtains when running alone - and the cache
    invariant holds again at the end -/
theorem C19_schedule_independent (blankOf : Nat → Mat) (sched : List Nat) :
    ∀ (sh : Shared) (ts : List Thr), SharedInv blankOf sh → (∀ t ∈ ts, LogOK blankOf t ∧ PhaseOK sh t) →
      SharedInv blankOf (runSchedule blankOf sh ts sched).1 ∧
      ∀ t ∈ (runSchedule blankOf sh ts sched).2, LogOK blankOf t := by
  induction sched with
  | nil => intro sh ts hs ht; exact ⟨hs, fun t h => (ht t h).1⟩
  | cons i sched ih =>
    intro sh ts hs ht
    unfold runSchedule
    cases hi : ts[i]? with
    | none => exact ih sh ts hs ht
    | some t =>
      have htm : t ∈ ts := List.mem_of_getElem? hi
      obtain ⟨a1, a2, a3, a4⟩ := stepThr_spec blankOf sh t hs (ht t htm).1 (ht t htm).2
      apply ih _ _ a1
      intro u hu
      rcases List.mem_or_eq_of_mem_set hu with hu | hu
      · -- another thread still finds the entry it saw: nothing is ever removed
        exact ⟨(ht u hu).1, fun hl v rest hv => a4 v ((ht u hu).2 hl v rest hv)⟩
      · subst hu
        exact ⟨a2, a3⟩

/-- non-vacuity: a cold cache and fresh threads satisfy the hypotheses -/
example (blankOf : Nat → Mat) (progs : List (List Nat)) :
    SharedInv blankOf { blanks := fun _ => none } ∧
    ∀ t ∈ progs.map (fun p => ({ todo := p, phase := .probe, log := [] } : Thr)),
      LogOK blankOf t ∧ PhaseOK { blanks := fun _ => none } t := by
  constructor
  · intro v b h; cases h
  · intro t ht
    obtain ⟨p, _, rfl⟩ := List.mem_map.mp ht
    constructor
    · intro e he; cases he
    · intro hc; cases hc

/-- the Python functions this property's model mirrors have, in /repo's current working tree, exactly the normalised
    ASTs the model was written and validated against (fingerprints regenerated by T1 on every run) -/
theorem C19_source_fingerprints : QR.Gen.fp_C19 = QR.Pinned.fp_C19 := by decide

end QR.Props
