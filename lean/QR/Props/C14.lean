import QR.Model.Styled
import QR.Proofs.Styled
import QR.Proofs.Pinned
import QR.Proofs.SourceTieC14Masks
import QR.Proofs.SourceTieC14Styled
import QR.Proofs.SourceTieC14Drawers
/-
C14 - styled images: colour logic on exact pixels (`C14_light`, `C14_square_dark`, `C14_gradient_dark`; the defect D4
`C14_paint_equals_back_blank`), embedded-image geometry (`C14_logo`), and the geometry of the six Pillow module
drawers (`C14_drawer_*`: nothing is painted outside the module's pixel box).  Antialiased pixel values, gradients' float
rounding and Pillow's paste/resize are validated on real Pillow by the check (partial, see DESIGN.md 6/C14).
`C14_source_*`: bridges, capstones and the fingerprint obligation (the three kinds are explained at the head of Props/C02.lean).
-/
namespace QR.Props
open QR.Model

/-- **D4 characterised**: the paint colour equals the background exactly for an opaque RGBA background (alpha 255) and
    for a black background without alpha (all-zero channels) - the open known finding; for every other 3/4-channel
    background it differs -/
theorem C14_paint_eq_back_iff (r g b : Int) :
    (paintColour [r, g, b] = [r, g, b] ↔ r = 0 ∧ g = 0 ∧ b = 0) ∧
    (∀ a, paintColour [r, g, b, a] = [r, g, b, a] ↔ a = 255) := by
  refine ⟨?_, fun a => ?_⟩
  · -- without alpha the paint colour is black
    show [0, 0, 0] = [r, g, b] ↔ _
    rw [eq_comm]
    simp only [List.cons.injEq, and_true]
  · -- with alpha it is the background made opaque
    show [r, g, b, 255] = [r, g, b, a] ↔ _
    rw [eq_comm]
    simp only [List.cons.injEq, true_and, and_true]

/-- **light pixels**: a pixel that is exactly the background colour (every pixel of a light module and of the quiet
    zone) stays exactly the background colour after `apply_mask`, whenever the paint colour differs from the background
    in at least one channel (and the foreground pixel has at least as many channels as the background).
    (`Proofs.Styled.light_pixel_strong` shows `hl` and `hne` are not even needed.) -/
theorem C14_light (back paint fg : Colour) (hl : back.length = paint.length) (hfg : back.length ≤ fg.length)
    (hne : paint ≠ back) : applyMaskPixel back paint fg back = back :=
  Proofs.Styled.light_pixel_strong back paint fg hfg

/-- **dark pixels, square drawers**: a pixel that is exactly the paint colour (every pixel of a dark module drawn by a
    square drawer) becomes exactly the foreground pixel `get_fg_pixel(image, x, y)`, whenever paint ≠ background -/
theorem C14_square_dark (back paint fg : Colour) (hl : back.length = paint.length) (hfg : back.length = fg.length)
    (hne : paint ≠ back) : applyMaskPixel back paint fg paint = fg := by
  unfold applyMaskPixel
  rw [Proofs.Styled.mean_const _ 1 (Proofs.Styled.extrapColor_ne_nil back paint paint hl (Nat.le_of_eq hl) hne)
    (Proofs.Styled.extrapColor_paint back paint paint rfl)]
  exact Proofs.Styled.interpColor_one back fg hfg

/-- **the D4 defect**: when the paint colour equals the background colour (see `C14_paint_eq_back_iff`: black RGB
    background, or RGBA background with alpha 255) *every* pixel - whatever was drawn - becomes background: the image is
    blank -/
theorem C14_paint_equals_back_blank (back paint fg pix : Colour) (h : paint = back) :
    applyMaskPixel back paint fg pix = back := by
  rw [applyMaskPixel, Proofs.Styled.extrapColor_self back paint pix h]
  rfl

/-- **embedded image geometry** (`draw_embeded_image`, `w = int(total * ratio) ≤ total`): the offset is a whole number
    of modules; the logo is centred (`offset + side + offset = total`: equal margins, and no truncation in
    `total - offset*2`); its side is between `w - 1` and `w + 2*box - 1` (both bounds are attained, also when
    `box ∣ total`, see the examples); and when the image is a whole number of modules wide, so is the logo -/
theorem C14_logo (total box w : Nat) (hbox : 0 < box) (hw : w ≤ total) :
    box ∣ (logoGeometry total box w).1 ∧
    (logoGeometry total box w).1 * 2 + (logoGeometry total box w).2 = total ∧
    w ≤ (logoGeometry total box w).2 + 1 ∧ (logoGeometry total box w).2 + 1 ≤ w + 2 * box ∧
    (box ∣ total → box ∣ (logoGeometry total box w).2) :=
  have h := Proofs.Styled.logo_geometry total box w hbox hw
  ⟨h.1, h.2.1, h.2.2.1, h.2.2.2, Proofs.Styled.logo_side_dvd total box w⟩

/-- non-vacuity: white background, black paint, dark-blue foreground -/
example :
    applyMaskPixel [255, 255, 255] (paintColour [255, 255, 255]) [0, 0, 120] [255, 255, 255] = [255, 255, 255] ∧
    applyMaskPixel [255, 255, 255] (paintColour [255, 255, 255]) [0, 0, 120] (paintColour [255, 255, 255]) = [0, 0, 120] :=
  ⟨C14_light _ _ _ rfl (by decide) (by decide), C14_square_dark _ _ _ rfl rfl (by decide)⟩

/-- non-vacuity of the defect: opaque white RGBA background - paint = background, a painted pixel comes out white -/
example : paintColour [255, 255, 255, 255] = [255, 255, 255, 255] ∧
    applyMaskPixel [255, 255, 255, 255] (paintColour [255, 255, 255, 255]) [0, 0, 120, 255] [255, 255, 255, 255]
      = [255, 255, 255, 255] :=
  ⟨by decide, C14_paint_equals_back_blank _ _ _ _ (by decide)⟩

/-- the logo bounds are tight: side = w - 1 and side = w + 2*box - 1 both occur (here with `box ∣ total`);
    default-ish case: 33 modules of 10 px, ratio 1/4 -/
example : logoGeometry 60 6 13 = (24, 12) ∧ logoGeometry 63 7 8 = (21, 21) ∧ logoGeometry 330 10 82 = (120, 90) := by
  decide

/-- **foreground colour range (gradients)**: `interp_color(c1, c2, t)` - what the radial, square, horizontal and
    vertical gradient masks return from `get_fg_pixel` with `t` the normalised distance / position - is channel-wise
    between the two configured end colours for every interpolation parameter `t` in [0, 1].  (No sign condition on
    the channels is needed: Python's `int()` truncation toward zero of a value between two integers stays between
    them.) -/
theorem C14_fg_range (c1 c2 : Colour) (t : Rat) (h0 : 0 ≤ t) (h1 : t ≤ 1) (hl : c1.length = c2.length) :
    (interpColor c1 c2 t).length = c1.length ∧
    ∀ i (hi : i < c1.length),
      min c1[i] (c2[i]'(hl ▸ hi)) ≤ (interpColor c1 c2 t)[i]! ∧
      (interpColor c1 c2 t)[i]! ≤ max c1[i] (c2[i]'(hl ▸ hi)) :=
  ⟨Proofs.Styled.interpColor_length c1 c2 t hl, Proofs.Styled.interpColor_between c1 c2 t h0 h1 hl⟩

/-- **dark pixels under a gradient mask**: an exact paint-coloured pixel (square drawer) comes out as a colour
    channel-wise between the gradient's two end colours -/
theorem C14_gradient_dark (back paint c1 c2 : Colour) (t : Rat) (h0 : 0 ≤ t) (h1 : t ≤ 1)
    (hl : back.length = paint.length) (hc1 : back.length = c1.length) (hc : c1.length = c2.length)
    (hne : paint ≠ back) :
    ∀ i (hi : i < c1.length),
      min c1[i] (c2[i]'(hc ▸ hi)) ≤ (applyMaskPixel back paint (interpColor c1 c2 t) paint)[i]! ∧
      (applyMaskPixel back paint (interpColor c1 c2 t) paint)[i]! ≤ max c1[i] (c2[i]'(hc ▸ hi)) := by
  rw [C14_square_dark back paint _ hl (by rw [Proofs.Styled.interpColor_length c1 c2 t hc, hc1]) hne]
  exact (C14_fg_range c1 c2 t h0 h1 hc).2

/-- non-vacuity: a third of the way from dark blue to orange -/
example : interpColor [0, 0, 120] [255, 128, 0] (1 / 3) = [85, 42, 80] := by decide +kernel

/-! ### Bridges (plugin `frag_c.py`, `Gen.Code.cm_*`, `spil_*`): colormasks.py and the colour / logo computations of styledpil.py.  Those
    that other proofs use as well are proved in QR/Proofs/SourceTieC14Masks.lean, SourceTieC14Styled.lean. -/
section SourceTieT
open QR.Gen QR.Gen.Code QR.SourceTieT

/-- `extrap_num`: `None` when the two numbers coincide, else the quotient (the Model inlines this in `extrapColor`) -/
theorem C14_source_extrapNum_src (n1 n2 v : Int) :
    Code.cm_extrap_num n1 n2 v = if n2 = n1 then none else some ((v - n1 : Int) / (n2 - n1 : Int) : Rat) :=
  QR.SourceTieT.extrapNum_src n1 n2 v

/-- `interp_num` is one channel of the Model's `interpColor` -/
theorem C14_source_interpNum_src (n1 n2 : Int) (norm : Rat) :
    truncInt (n2 * norm + n1 * (1 - norm)) = Code.cm_interp_num n1 n2 norm := rfl

/-- **`extrap_color` complete** -/
theorem C14_source_extrapColorMean_src (c1 c2 ci : Colour) :
    mean (extrapColor c1 c2 ci) = Code.cm_extrap_color c1 c2 ci :=
  QR.SourceTieT.extrapColorMean_src c1 c2 ci

/-- **`interp_color`**, for every `col2` that has a channel for every channel of `col1` (otherwise Python raises
    IndexError at `col2[i]`) -/
theorem C14_source_interpColor_src (c1 c2 : Colour) (norm : Rat) (h : c1.length ≤ c2.length) :
    interpColor c1 c2 norm = Code.cm_interp_color c1 c2 norm :=
  QR.SourceTieT.interpColor_src c1 c2 norm h

theorem C14_source_getBgPixel_src (back : Colour) (x y : Nat) : Code.cm_get_bg_pixel back x y = back := rfl

/-- **the loop body of `QRColorMask.apply_mask`**: it reads pixel (x, y) and writes, at (x, y), the Model's `applyMaskPixel`
    of what it read (`fg x y` stands for `self.get_fg_pixel(image, x, y)`; the hypothesis is the one of `interp_color`) -/
theorem C14_source_applyMaskPixel_src (back paint : Colour) (fg : Nat → Nat → Colour) (image : Nat → Nat → Colour) (x y : Nat)
    (h : back.length ≤ (fg x y).length) :
    Code.cm_apply_mask_body back paint fg image x y
      = Code.cm_putpixel image (x, y) (applyMaskPixel back paint (fg x y) (image x y)) :=
  QR.SourceTieT.applyMaskPixel_src back paint fg image x y h

/-- **`QRColorMask.apply_mask`, the whole loop nest** (`for x in range(width): for y in range(height): ...` on an image
    seen as a function of x and y): every pixel inside `width × height` is replaced by the Model's `applyMaskPixel` of
    its *original* value, every other pixel is untouched.  `fg x y` is `get_fg_pixel(image, x, y)` (for all masks of
    colormasks.py it does not depend on the pixels of `image`). -/
theorem C14_source_applyMask_src (back paint : Colour) (fg : Nat → Nat → Colour) (width height : Nat) (image : Nat → Nat → Colour)
    (hfg : ∀ x y, back.length ≤ (fg x y).length) (a b : Nat) :
    Code.cm_apply_mask back paint fg width height image a b
      = if a < width ∧ b < height then applyMaskPixel back paint (fg a b) (image a b) else image a b := by
  have e : ∀ image x y, Code.cm_apply_mask_body back paint fg image x y
      = Code.cm_putpixel image (x, y) ((fun x y pix => applyMaskPixel back paint (fg x y) pix) x y (image x y)) :=
    fun image x y => applyMaskPixel_src back paint fg image x y (hfg x y)
  unfold Code.cm_apply_mask Code.cm_range
  simp only [e, Nat.sub_zero]
  exact putpixel_loops (fun x y pix => applyMaskPixel back paint (fg x y) pix) width height image a b

/-- the branch structure: nothing happens iff back = (255, 255, 255) and front = (0, 0, 0); otherwise the base class's loop
    runs with the constant foreground `front_color` -/
theorem C14_source_solidApplyMask_src (back front paint : Colour) (w h : Nat) (image : Nat → Nat → Colour) :
    Code.cm_solid_apply_mask back front paint w h image
      = if back = [255, 255, 255] ∧ front = [0, 0, 0] then image
        else Code.cm_apply_mask back paint (fun _ _ => front) w h image := by
  unfold Code.cm_solid_apply_mask Code.cm_solid_fast_path
  by_cases h1 : back = [255, 255, 255] <;> by_cases h2 : front = [0, 0, 0] <;> simp [h1, h2] <;> rfl

/-- **the fast path is sound on grey images** (what the drawers produce: black, white, and antialiasing greys): when
    the fast-path condition holds and the paint colour is black, skipping the loop (`pass`) gives the same image as
    running the base class's loop - in exact arithmetic -/
theorem C14_source_solidFastPath_src (back front paint : Colour) (w h : Nat) (image : Nat → Nat → Colour)
    (hc : Code.cm_solid_fast_path back front = true) (hp : paint = [0, 0, 0])
    (hg : ∀ a b, ∃ v, image a b = [v, v, v]) :
    Code.cm_solid_apply_mask back front paint w h image
      = Code.cm_apply_mask back paint (Code.cm_solid_get_fg_pixel front) w h image := by
  unfold Code.cm_solid_fast_path at hc
  simp only [Bool.and_eq_true, decide_eq_true_eq] at hc
  obtain ⟨hb, hf⟩ := hc
  subst hb; subst hf; subst hp
  rw [C14_source_solidApplyMask_src, if_pos ⟨rfl, rfl⟩]
  funext a b
  rw [C14_source_applyMask_src [255, 255, 255] [0, 0, 0] (Code.cm_solid_get_fg_pixel [0, 0, 0]) w h image
    (fun _ _ => Nat.le_refl 3)]
  obtain ⟨v, hv⟩ := hg a b
  split
  · rw [hv]; exact (Proofs.Styled.solid_grey_pixel v).symm
  · rfl

/-- `x / width` is in [0, 1] for every column of the image -/
theorem C14_source_horizontalNorm_src (width height x y : Int) (h0 : 0 ≤ x) (h1 : x < width) :
    0 ≤ Code.cm_horizontal_norm width height x y ∧ Code.cm_horizontal_norm width height x y ≤ 1 := by
  obtain ⟨a, b, c⟩ := cast_bounds width x h0 h1
  exact ⟨div_nonneg a c, div_le_one c b⟩

/-- `y / width` (the source divides by the *width*) is in [0, 1] for every row `y < width` -/
theorem C14_source_verticalNorm_src (width height x y : Int) (h0 : 0 ≤ y) (h1 : y < width) :
    0 ≤ Code.cm_vertical_norm width height x y ∧ Code.cm_vertical_norm width height x y ≤ 1 := by
  obtain ⟨a, b, c⟩ := cast_bounds width y h0 h1
  exact ⟨div_nonneg a c, div_le_one c b⟩

/-- `max(abs(x - width / 2), abs(y - width / 2)) / (width / 2)` is in [0, 1] for `0 ≤ x, y < width` -/
theorem C14_source_squareNorm_src (width height x y : Int) (hx0 : 0 ≤ x) (hx1 : x < width) (hy0 : 0 ≤ y) (hy1 : y < width) :
    0 ≤ Code.cm_square_norm width height x y ∧ Code.cm_square_norm width height x y ≤ 1 := by
  obtain ⟨a, b, c⟩ := cast_bounds width x hx0 hx1
  obtain ⟨a', b', _⟩ := cast_bounds width y hy0 hy1
  have hx := abs_half a b
  have hy := abs_half a' b'
  have hw : (0 : Rat) < (width : Rat) / 2 := by grind
  unfold Code.cm_square_norm
  refine ⟨div_nonneg ?_ hw, div_le_one hw ?_⟩
  · rw [Rat.max_def]; split <;> grind
  · rw [Rat.max_def]; split <;> grind

/-- the radial normalisation `sqrt(A) / (sqrt(2) * width / 2)`, translated as the pair (q, r) meaning q·√r: for
    `0 ≤ x, y < width` we have `0 ≤ q`, `0 ≤ r` and `q² · r ≤ 1`, i.e. with a real square root the value q·√r is in [0, 1] -/
theorem C14_source_radialNorm_src (width height x y : Int) (hx0 : 0 ≤ x) (hx1 : x < width) (hy0 : 0 ≤ y) (hy1 : y < width) :
    0 ≤ (Code.cm_radial_norm_surd width height x y).1 ∧ 0 ≤ (Code.cm_radial_norm_surd width height x y).2 ∧
    (Code.cm_radial_norm_surd width height x y).1 * (Code.cm_radial_norm_surd width height x y).1
      * (Code.cm_radial_norm_surd width height x y).2 ≤ 1 := by
  obtain ⟨a, b, c⟩ := cast_bounds width x hx0 hx1
  obtain ⟨a', b', _⟩ := cast_bounds width y hy0 hy1
  -- both squared distances to the centre are at most `(width / 2)²`, so their sum is at most `width² / 2`
  have hX := sq_le_sq' ((x : Rat) - (width : Rat) / 2) ((width : Rat) / 2) (by grind) (by grind)
  have hY := sq_le_sq' ((y : Rat) - (width : Rat) / 2) ((width : Rat) / 2) (by grind) (by grind)
  have hW : (0 : Rat) < (width : Rat) ^ 2 / 2 := by
    have := Rat.mul_pos c c
    grind
  refine ⟨?_, ?_, ?_⟩
  · exact div_nonneg (by decide) (by grind)
  · have hX0 := sq_nonneg ((x : Rat) - (width : Rat) / 2)
    have hY0 := sq_nonneg ((y : Rat) - (width : Rat) / 2)
    exact div_nonneg (by grind) (by decide)
  · rw [radialNormValue_src width height x y (by omega)]
    exact div_le_one hW (by grind)

/-- every colour mask class that sets `has_transparency` sets it to `len(self.back_color) == 4` (the base class: the
    constant `False` together with a 3-channel `back_color`), and these are all the classes that set it -/
theorem C14_source_hasTransparency_src (back : Colour) :
    spil_mask_classes = ["QRColorMask", "SolidFillColorMask", "RadialGradiantColorMask", "SquareGradiantColorMask",
      "HorizontalGradiantColorMask", "VerticalGradiantColorMask", "ImageColorMask"] ∧
    spil_has_transparency_QRColorMask = decide (spil_back_color_QRColorMask.length = 4) ∧
    spil_has_transparency_SolidFillColorMask back = decide (back.length = 4) ∧
    spil_has_transparency_RadialGradiantColorMask back = decide (back.length = 4) ∧
    spil_has_transparency_SquareGradiantColorMask back = decide (back.length = 4) ∧
    spil_has_transparency_HorizontalGradiantColorMask back = decide (back.length = 4) ∧
    spil_has_transparency_VerticalGradiantColorMask back = decide (back.length = 4) ∧
    spil_has_transparency_ImageColorMask back = decide (back.length = 4) :=
  ⟨rfl, rfl, rfl, rfl, rfl, rfl, rfl, rfl⟩

/-- **paint colour**: for every mask class of colormasks.py (and the base class with its class attributes) -/
theorem C14_source_paintColour_src (back : Colour) :
    paintColour back = spil_paint_color back (spil_has_transparency_SolidFillColorMask back) ∧
    paintColour back = spil_paint_color back (spil_has_transparency_RadialGradiantColorMask back) ∧
    paintColour back = spil_paint_color back (spil_has_transparency_SquareGradiantColorMask back) ∧
    paintColour back = spil_paint_color back (spil_has_transparency_HorizontalGradiantColorMask back) ∧
    paintColour back = spil_paint_color back (spil_has_transparency_VerticalGradiantColorMask back) ∧
    paintColour back = spil_paint_color back (spil_has_transparency_ImageColorMask back) ∧
    paintColour spil_back_color_QRColorMask = spil_paint_color spil_back_color_QRColorMask spil_has_transparency_QRColorMask :=
  ⟨paintColour_flag_src back _ rfl, paintColour_flag_src back _ rfl, paintColour_flag_src back _ rfl,
   paintColour_flag_src back _ rfl, paintColour_flag_src back _ rfl, paintColour_flag_src back _ rfl, rfl⟩

/-- the mode (no Model counterpart: stated as a characterisation): RGBA exactly when the mask has transparency or there is
    an embedded image with an alpha band -/
theorem C14_source_styledNewImageMode_src (ht ei : Bool) (bands : List String) :
    spil_new_image_mode ht ei bands = if ht = true ∨ (ei = true ∧ "A" ∈ bands) then "RGBA" else "RGB" := by
  unfold spil_new_image_mode
  by_cases hb : "A" ∈ bands <;> cases ht <;> cases ei <;> simp [hb]

/-- **logo geometry** `Model.logoGeometry total box w` = (offset, side) is the position `(offset, offset)` and the resize
    size `(side, side)` of the source, whenever `int(w / 2) ≤ int(total / 2)` (guaranteed by the documented range
    `0 ≤ embeded_image_ratio ≤ 1`, see `C14_source_logoGeometry_ratio_src`).  No hypothesis on `box` (Python raises
    ZeroDivisionError for `box_size = 0`, which `_check_box_size` excludes). -/
theorem C14_source_logoGeometry_src (total height box w : Nat) (hw : w / 2 ≤ total / 2) :
    spil_logo_box_of (total : Int) (height : Int) (box : Int) (w : Int) =
      ((((logoGeometry total box w).1 : Int), ((logoGeometry total box w).1 : Int)),
       (((logoGeometry total box w).2 : Int), ((logoGeometry total box w).2 : Int))) := by
  have hoff := (QR.Proofs.Styled.logo_offset total box w).2
  simp only [spil_logo_box_of, logoGeometry] at *
  have h1 : Int.tdiv (total : Int) 2 = ((total / 2 : Nat) : Int) := by
    rw [Int.tdiv_eq_ediv_of_nonneg (by omega)]; omega
  have h2 : Int.tdiv (w : Int) 2 = ((w / 2 : Nat) : Int) := by
    rw [Int.tdiv_eq_ediv_of_nonneg (by omega)]; omega
  have h3 : ((total / 2 : Nat) : Int) - ((w / 2 : Nat) : Int) = ((total / 2 - w / 2 : Nat) : Int) := by omega
  rw [h1, h2, h3, Int.tdiv_eq_ediv_of_nonneg (by omega), ← Int.natCast_ediv, ← Int.natCast_mul]
  generalize (total / 2 - w / 2) / box * box = o at *
  have h4 : (total : Int) - (o : Int) * 2 = ((total - o * 2 : Nat) : Int) := by omega
  rw [h4]

/-- **logo geometry, whole computation** (`total_width`, `logo_width_ish`, `logo_offset`, position, resize size) for every
    ratio in the documented range `0 ≤ embeded_image_ratio ≤ 1`: the Model's `w` is `int(total_width * ratio)` (exact real
    product) -/
theorem C14_source_logoGeometry_ratio_src (total height box : Nat) (ratio : Rat) (h0 : 0 ≤ ratio) (h1 : ratio ≤ 1) :
    spil_logo_box (total : Int) (height : Int) (box : Int) ratio =
      ((((logoGeometry total box (truncInt ((total : Int) * ratio)).toNat).1 : Int),
        ((logoGeometry total box (truncInt ((total : Int) * ratio)).toNat).1 : Int)),
       (((logoGeometry total box (truncInt ((total : Int) * ratio)).toNat).2 : Int),
        ((logoGeometry total box (truncInt ((total : Int) * ratio)).toNat).2 : Int))) := by
  obtain ⟨hlo, hhi⟩ := logoWidthIsh_range total height ratio h0 h1
  rw [logoWidthIsh_src] at hlo hhi
  unfold spil_logo_box
  rw [logoWidthIsh_src]
  generalize truncInt ((total : Int) * ratio) = wi at *
  have hw : wi = ((wi.toNat : Nat) : Int) := by omega
  rw [hw, Int.toNat_natCast]
  exact C14_source_logoGeometry_src total height box wi.toNat (by omega)

/-- the hypothesis of `C14_source_logoGeometry_src` cannot be dropped: for a ratio above 1 (outside the documented range) the source
    computes a negative offset and a logo larger than the image, the Model (natural-number subtraction) does not -/
theorem C14_source_logoGeometry_outside_range :
    spil_logo_box_of 100 100 10 200 = ((-50, -50), (200, 200)) ∧ logoGeometry 100 10 200 = (0, 100) :=
  ⟨rfl, rfl⟩

end SourceTieT

/-! ### Bridges (plugin `frag_d5.py`, `Gen.Code.dr_*`): the six Pillow module drawers of `moduledrawers/pil.py` (`initialize`, `setup_*`,
    `drawrect`) against the closed form `SourceTieD5.paints` (QR/Proofs/SourceTieC14Drawers.lean), what the closed form implies
    for the translated drawers (`C14_drawer_*`), and the constructors and statement skeletons of styledpil.py and colormasks.py. -/
section SourceTieD5
open QR.Gen.Code QR.SourceTieD5

/-- `moduledrawers/pil.py`, all six Pillow drawers (`initialize`, `setup_corners` / `setup_edges`, `drawrect`, translated from
    the AST) = the closed form `SourceTieD5.paints` (the list of painted closed pixel rectangles of one module); the Model has
    no stamp model, the closed form is its Model-side definition.  `0 ≤ bs`: `int(box_size / 2)` truncates, `bs / 2` floors. -/
theorem C14_source_drawerPaints_src (d : Drawer) (bs : Int) (hbs : 0 ≤ bs) (ratio : Rat) (x y : Int) (a : dr_Active) :
    sourcePaints d bs ratio (moduleBox x y bs) a = paints d bs ratio x y a :=
  QR.SourceTieD5.paints_src d bs hbs ratio x y a

/-- `int()` in the translated drawers (`dr_pyInt`), the closed form's `truncQ` and the Model's `truncInt` are one function -/
theorem C14_source_drawerTrunc_src (q : Rat) : dr_pyInt q = truncQ q ∧ truncQ q = QR.Model.truncInt q :=
  ⟨rfl, rfl⟩

/-- **inside the box**: whatever the translated `drawrect` of any of the six Pillow drawers paints for a module (after the
    translated `initialize` / `setup_*`) lies inside that module's pixel box `((x, y), (x + bs - 1, y + bs - 1))` - for every
    box size ≥ 1, every ratio in [0, 1], every position, every neighbourhood.  So a dark module never paints a pixel of a light
    neighbour or of the quiet zone.  (For ratio > 1 it is false: `C14_source_drawer_ratio_above_one`.) -/
theorem C14_drawer_inside_box (d : Drawer) (bs : Int) (hbs : 1 ≤ bs) (ratio : Rat) (h0 : 0 ≤ ratio) (h1 : ratio ≤ 1)
    (x y : Int) (a : dr_Active) :
    ∀ p ∈ sourcePaints d bs ratio (moduleBox x y bs) a, p.2.inside (moduleBox x y bs) := by
  rw [paints_src d bs (by omega) ratio x y a]
  exact paints_inside_box d bs hbs ratio h0 h1 x y a

/-- a light module: the translated `drawrect` of every Pillow drawer makes no drawing call at all -/
theorem C14_drawer_light_nothing (d : Drawer) (bs : Int) (hbs : 0 ≤ bs) (ratio : Rat) (x y : Int) (a : dr_Active) (h : a.me = false) :
    sourcePaints d bs ratio (moduleBox x y bs) a = [] := by
  rw [paints_src d bs hbs ratio x y a]; simp [paints, h]

/-- `SquareModuleDrawer.drawrect` (translated): a dark module is one `rectangle` call, exactly its pixel box, paint colour -/
theorem C14_drawer_square_full (bs : Int) (hbs : 0 ≤ bs) (ratio : Rat) (x y : Int) (a : dr_Active) (h : a.me = true) :
    sourcePaints .square bs ratio (moduleBox x y bs) a
      = [("self.img.paint_color", RectQ.ofInt (moduleBox x y bs).1.1 (moduleBox x y bs).1.2 (moduleBox x y bs).2.1 (moduleBox x y bs).2.2)] := by
  rw [paints_src .square bs hbs ratio x y a]; simp [paints, h, moduleBox]

/-- `RoundedModuleDrawer.drawrect` (translated): the four corner stamps tile the `2c × 2c` square at the box origin
    (`c = int(box_size / 2)`): a pixel is covered iff it is in that square, and never by two different stamps -/
theorem C14_drawer_rounded_tiles (bs : Int) (hbs : 0 ≤ bs) (ratio : Rat) (x y : Int) (a : dr_Active) (h : a.me = true)
    (px py : Int) :
    ((∃ p ∈ sourcePaints .rounded bs ratio (moduleBox x y bs) a, p.2.covers px py)
        ↔ (x ≤ px ∧ px < x + 2 * (bs / 2) ∧ y ≤ py ∧ py < y + 2 * (bs / 2))) ∧
    ∀ p ∈ sourcePaints .rounded bs ratio (moduleBox x y bs) a, ∀ q ∈ sourcePaints .rounded bs ratio (moduleBox x y bs) a,
        p.2.covers px py → q.2.covers px py → p.2 = q.2 := by
  rw [paints_src .rounded bs hbs ratio x y a]
  have hc : 0 ≤ bs / 2 := by omega
  simp only [paints, h, Bool.not_true, Bool.false_eq_true, if_false, List.mem_cons, List.not_mem_nil, or_false]
  constructor
  · constructor
    · rintro ⟨p, hp | hp | hp | hp, hcov⟩ <;> subst hp <;> rw [ofInt_covers_iff] at hcov <;> omega
    · intro hin
      by_cases hx : px < x + bs / 2 <;> by_cases hy : py < y + bs / 2
      · exact ⟨_, Or.inl rfl, (ofInt_covers_iff ..).mpr (by omega)⟩
      · exact ⟨_, Or.inr (Or.inr (Or.inr rfl)), (ofInt_covers_iff ..).mpr (by omega)⟩
      · exact ⟨_, Or.inr (Or.inl rfl), (ofInt_covers_iff ..).mpr (by omega)⟩
      · exact ⟨_, Or.inr (Or.inr (Or.inl rfl)), (ofInt_covers_iff ..).mpr (by omega)⟩
  · rintro p (hp | hp | hp | hp) q (hq | hq | hq | hq) hcp hcq <;> subst hp <;> subst hq <;>
      first
      | rfl
      | (exfalso; rw [ofInt_covers_iff] at hcp hcq; omega)

/-- `RoundedModuleDrawer` (translated), existing behaviour stated exactly: inside a dark module's box a pixel is painted iff
    the box size is even or the pixel is not in the last column / row (odd sizes leave a one-pixel background seam) -/
theorem C14_drawer_rounded_seam (bs : Int) (hbs : 1 ≤ bs) (ratio : Rat) (x y : Int) (a : dr_Active) (h : a.me = true) (px py : Int)
    (hx : x ≤ px ∧ px ≤ x + bs - 1) (hy : y ≤ py ∧ py ≤ y + bs - 1) :
    (∃ p ∈ sourcePaints .rounded bs ratio (moduleBox x y bs) a, p.2.covers px py)
      ↔ (bs % 2 = 0 ∨ (px ≠ x + bs - 1 ∧ py ≠ y + bs - 1)) := by
  rw [(C14_drawer_rounded_tiles bs (by omega) ratio x y a h px py).1]
  omega

/-- `GappedSquareModuleDrawer` (translated `initialize` + `drawrect`): the shrunken box is a proper rectangle iff
    `size_ratio · box_size ≥ 1` (below that Pillow receives an inverted box) -/
theorem C14_drawer_gapped_proper (bs : Int) (hbs : 0 ≤ bs) (ratio : Rat) (x y : Int) (a : dr_Active) (h : a.me = true) :
    ∀ p ∈ sourcePaints .gapped bs ratio (moduleBox x y bs) a, (p.2.x0 ≤ p.2.x1 ↔ 1 ≤ ratio * (bs : Rat)) := by
  rw [paints_src .gapped bs hbs ratio x y a]
  simp only [paints, h, Bool.not_true, Bool.false_eq_true, if_false, List.mem_singleton]
  intro p hp; subst hp
  simp only [Rat.intCast_sub, Rat.intCast_add]
  constructor <;> intro hh <;> grind

/-- the hypothesis `ratio ≤ 1` of `C14_drawer_inside_box` cannot be dropped (both sides evaluated): `VerticalBarsDrawer(1.5)`
    pastes columns -2 .. 12 for a module occupying 0 .. 9; `GappedSquareModuleDrawer(2)` draws (-5, -5, 14, 14) -/
theorem C14_source_drawer_ratio_above_one :
    sourcePaints .vbars 10 (3 / 2) (moduleBox 0 0 10) allDark
      = [("self.SQUARE", RectQ.ofInt (-2) 0 12 4), ("self.SQUARE", RectQ.ofInt (-2) 5 12 9)] ∧
    sourcePaints .gapped 10 2 (moduleBox 0 0 10) allDark = [("self.img.paint_color", ⟨-5, -5, 14, 14⟩)] := by
  constructor <;> decide +kernel

/-- the constructors of the four parametrised Pillow drawers (translated): the attribute is the argument; defaults 0.8, 1,
    0.8, 0.8 (exact float values), all inside (0, 1] -/
theorem C14_source_drawerCtor_src (r : Rat) :
    dr_gapped_init (some r) = r ∧ dr_rounded_init (some r) = r ∧ dr_vbars_init (some r) = r ∧ dr_hbars_init (some r) = r ∧
    dr_gapped_init none = (3602879701896397 : Rat) / 4503599627370496 ∧ dr_rounded_init none = 1 ∧
    dr_vbars_init none = dr_gapped_init none ∧ dr_hbars_init none = dr_gapped_init none ∧
    (0 < dr_gapped_init none ∧ dr_gapped_init none ≤ 1) ∧
    [dr_gapped_init_attr, dr_rounded_init_attr, dr_vbars_init_attr, dr_hbars_init_attr]
      = ["self.size_ratio", "self.radius_ratio", "self.horizontal_shrink", "self.vertical_shrink"] := by
  refine ⟨rfl, rfl, rfl, rfl, rfl, ?_, rfl, rfl, ?_, rfl⟩
  · simp only [dr_rounded_init]; decide +kernel
  · simp only [dr_gapped_init]; constructor <;> decide +kernel

/-- `StyledPilImage.init_new_image` / `process` / `save` (translated statement skeletons): colour mask initialised before the
    drawers, mask applied before the logo, logo only if `self.embeded_image`; save format = argument, else `kwargs["kind"]`,
    else `"PNG"` -/
theorem C14_source_styledSkeleton_src (fmt kw : Option String) :
    dr_spil_init_new_image = [("self.color_mask.initialize", ["self", "self._img"]), ("super().init_new_image", [])] ∧
    dr_base_init_new_image = ["self.module_drawer.initialize(img=self)", "self.eye_drawer.initialize(img=self)",
      "return super().init_new_image()"] ∧
    dr_spil_process true = ["self.color_mask.apply_mask(self._img)", "self.draw_embeded_image()"] ∧
    dr_spil_process false = ["self.color_mask.apply_mask(self._img)"] ∧ dr_spil_process_test = "self.embeded_image" ∧
    dr_spil_save_format fmt kw dr_spil_kind = (fmt.getD (kw.getD "PNG")) ∧
    dr_spil_save_keys = ["kind", "kind", "kind"] ∧ dr_spil_save_default = "self.kind" ∧
    dr_spil_save_call = "self._img.save(stream, format=format, **kwargs)" ∧
    dr_spil_needs_processing = true ∧ dr_spil_default_drawer = "SquareModuleDrawer" := by
  refine ⟨rfl, rfl, rfl, rfl, rfl, ?_, rfl, rfl, rfl, rfl, rfl⟩
  cases fmt <;> cases kw <;> rfl

/-- `CircleModuleDrawer.initialize`, `RoundedModuleDrawer.setup_corners`, `VerticalBarsDrawer/HorizontalBarsDrawer.setup_edges`
    (translated): every stamp is drawn `ANTIALIASING_FACTOR = 4` times larger and resized to the size `drawrect` pastes; stamp
    sizes and ellipse / rectangle coordinates equal these closed forms (the stamp sizes are what `paints` uses) -/
theorem C14_source_drawerSetup_src (bs c : Int) (r : Rat) :
    dr_ANTIALIASING_FACTOR = 4 ∧
    dr_circle_initialize_stamps bs
      = [("self.circle", (bs * 4, bs * 4), "Image.new(self.img.mode, self.img.color_mask.back_color)"),
         ("self.circle", (bs, bs), "self.circle.resize(Image.Resampling.LANCZOS)")] ∧
    dr_circle_initialize_draws bs = [("self.circle.ellipse", [0, 0, ((bs * 4 : Int) : Rat), ((bs * 4 : Int) : Rat)], "self.img.paint_color")] ∧
    dr_rounded_setup_corners_stamps c r
      = [("self.SQUARE", (c, c), "Image.new(mode, front_color)"), ("base", (c * 4, c * 4), "Image.new(mode, back_color)"),
         ("self.NW_ROUND", (c, c), "base.resize(Image.Resampling.LANCZOS)"),
         ("self.SW_ROUND", (c, c), "self.NW_ROUND.transpose(Image.Transpose.FLIP_TOP_BOTTOM)"),
         ("self.SE_ROUND", (c, c), "self.NW_ROUND.transpose(Image.Transpose.ROTATE_180)"),
         ("self.NE_ROUND", (c, c), "self.NW_ROUND.transpose(Image.Transpose.FLIP_LEFT_RIGHT)")] ∧
    dr_rounded_setup_corners_draws c r
      = [("base.ellipse", [0, 0, r * ((c * 4 : Int) : Rat) * 2, r * ((c * 4 : Int) : Rat) * 2], "front_color"),
         ("base.rectangle", [r * ((c * 4 : Int) : Rat), 0, ((c * 4 : Int) : Rat), ((c * 4 : Int) : Rat)], "front_color"),
         ("base.rectangle", [0, r * ((c * 4 : Int) : Rat), ((c * 4 : Int) : Rat), ((c * 4 : Int) : Rat)], "front_color")] ∧
    dr_vbars_setup_edges_stamps c r
      = [("self.SQUARE", (truncQ (((c * 2 : Int) : Rat) * r), c), "Image.new(mode, front_color)"),
         ("base", (c * 2 * 4, c * 4), "Image.new(mode, back_color)"),
         ("self.ROUND_TOP", (truncQ (((c * 2 : Int) : Rat) * r), c), "base.resize(Image.Resampling.LANCZOS)"),
         ("self.ROUND_BOTTOM", (truncQ (((c * 2 : Int) : Rat) * r), c), "self.ROUND_TOP.transpose(Image.Transpose.FLIP_TOP_BOTTOM)")] ∧
    dr_vbars_setup_edges_draws c r
      = [("base.ellipse", [0, 0, ((c * 2 * 4 : Int) : Rat), ((c * 4 * 2 : Int) : Rat)], "front_color")] ∧
    dr_hbars_setup_edges_stamps c r
      = [("self.SQUARE", (c, truncQ (((c * 2 : Int) : Rat) * r)), "Image.new(mode, front_color)"),
         ("base", (c * 4, c * 2 * 4), "Image.new(mode, back_color)"),
         ("self.ROUND_LEFT", (c, truncQ (((c * 2 : Int) : Rat) * r)), "base.resize(Image.Resampling.LANCZOS)"),
         ("self.ROUND_RIGHT", (c, truncQ (((c * 2 : Int) : Rat) * r)), "self.ROUND_LEFT.transpose(Image.Transpose.FLIP_LEFT_RIGHT)")] ∧
    dr_hbars_setup_edges_draws c r
      = [("base.ellipse", [0, 0, ((c * 4 * 2 : Int) : Rat), ((c * 2 * 4 : Int) : Rat)], "front_color")] := by
  refine ⟨rfl, ?_, ?_, ?_, ?_, ?_, ?_, ?_, ?_⟩ <;>
    simp [dr_circle_initialize_stamps, dr_circle_initialize_draws, dr_rounded_setup_corners_stamps,
      dr_rounded_setup_corners_draws, dr_vbars_setup_edges_stamps, dr_vbars_setup_edges_draws,
      dr_hbars_setup_edges_stamps, dr_hbars_setup_edges_draws, dr_ANTIALIASING_FACTOR, dr_pyInt_eq]

/-- statement order of `initialize` / `setup_*` of the six Pillow drawers, their `needs_neighbors`, and the fields of
    `ActiveWithNeighbors` (translated as literals): `super().initialize` first, geometry attributes before `setup_*` -/
theorem C14_source_drawerSkeleton_src :
    dr_Active_fields = ["NW", "N", "NE", "W", "me", "E", "SW", "S", "SE"] ∧
    dr_base_needs_neighbors = false ∧ dr_base_initialize = ["self.img = img"] ∧
    [dr_square_needs_neighbors, dr_gapped_needs_neighbors, dr_circle_needs_neighbors, dr_rounded_needs_neighbors,
      dr_vbars_needs_neighbors, dr_hbars_needs_neighbors] = [none, none, none, some true, some true, some true] ∧
    dr_square_initialize_order = ["call:super().initialize(*args, **kwargs)", "handle:self.imgDraw"] ∧
    dr_gapped_initialize_order = ["call:super().initialize(*args, **kwargs)", "handle:self.imgDraw", "real:self.delta"] ∧
    dr_circle_initialize_order = ["call:super().initialize(*args, **kwargs)", "int:box_size", "int:fake_size", "image:self.circle",
      "draw:self.circle.ellipse", "image:self.circle"] ∧
    dr_rounded_initialize_order = ["call:super().initialize(*args, **kwargs)", "int:self.corner_width", "call:self.setup_corners()"] ∧
    dr_vbars_initialize_order = ["call:super().initialize(*args, **kwargs)", "int:self.half_height", "int:self.delta", "call:self.setup_edges()"] ∧
    dr_hbars_initialize_order = ["call:super().initialize(*args, **kwargs)", "int:self.half_width", "int:self.delta", "call:self.setup_edges()"] ∧
    dr_rounded_setup_corners_order = ["alias:mode", "alias:back_color", "alias:front_color", "image:self.SQUARE", "int:fake_width",
      "real:radius", "real:diameter", "image:base", "handle:base_draw", "draw:base.ellipse", "draw:base.rectangle",
      "draw:base.rectangle", "image:self.NW_ROUND", "image:self.SW_ROUND", "image:self.SE_ROUND", "image:self.NE_ROUND"] ∧
    dr_vbars_setup_edges_order = ["alias:mode", "alias:back_color", "alias:front_color", "int:height", "int:width", "int:shrunken_width",
      "image:self.SQUARE", "int:fake_width", "int:fake_height", "image:base", "handle:base_draw", "draw:base.ellipse",
      "image:self.ROUND_TOP", "image:self.ROUND_BOTTOM"] ∧
    dr_hbars_setup_edges_order = ["alias:mode", "alias:back_color", "alias:front_color", "int:width", "int:height", "int:shrunken_height",
      "image:self.SQUARE", "int:fake_width", "int:fake_height", "image:base", "handle:base_draw", "draw:base.ellipse",
      "image:self.ROUND_LEFT", "image:self.ROUND_RIGHT"] ∧
    dr_rounded_setup_corners_other = ["mode = self.img.mode", "back_color = self.img.color_mask.back_color",
      "front_color = self.img.paint_color", "base_draw = ImageDraw.Draw(base)"] ∧
    dr_vbars_setup_edges_other = dr_rounded_setup_corners_other ∧ dr_hbars_setup_edges_other = dr_rounded_setup_corners_other ∧
    dr_square_initialize_other = ["super().initialize(*args, **kwargs)", "self.imgDraw = ImageDraw.Draw(self.img._img)"] ∧
    dr_gapped_initialize_other = dr_square_initialize_other ∧
    dr_pil_classes = ["StyledPilQRModuleDrawer", "SquareModuleDrawer", "GappedSquareModuleDrawer", "CircleModuleDrawer",
      "RoundedModuleDrawer", "VerticalBarsDrawer", "HorizontalBarsDrawer"] := by
  and_intros <;> rfl

/-- `colormasks.py` constructors and `initialize` (translated as literals): default colours, `back_color` stored before
    `has_transparency`, `initialize` copies the image's paint colour (the colour `applyMaskPixel` compares with) -/
theorem C14_source_colormaskCtor_src :
    dr_cm_classes = ["QRColorMask", "SolidFillColorMask", "RadialGradiantColorMask", "SquareGradiantColorMask",
      "HorizontalGradiantColorMask", "VerticalGradiantColorMask", "ImageColorMask"] ∧
    dr_cm_initialize_QRColorMask = ["self.paint_color = styledPilImage.paint_color"] ∧
    dr_cm_initialize_ImageColorMask = ["self.paint_color = styledPilImage.paint_color", "self.color_img = self.color_img.resize(image.size)"] ∧
    dr_cm_init_defaults_SolidFillColorMask = [("back_color", some [255, 255, 255]), ("front_color", some [0, 0, 0])] ∧
    dr_cm_init_defaults_RadialGradiantColorMask = [("back_color", some [255, 255, 255]), ("center_color", some [0, 0, 0]), ("edge_color", some [0, 0, 255])] ∧
    dr_cm_init_defaults_SquareGradiantColorMask = [("back_color", some [255, 255, 255]), ("center_color", some [0, 0, 0]), ("edge_color", some [0, 0, 255])] ∧
    dr_cm_init_defaults_HorizontalGradiantColorMask = [("back_color", some [255, 255, 255]), ("left_color", some [0, 0, 0]), ("right_color", some [0, 0, 255])] ∧
    dr_cm_init_defaults_VerticalGradiantColorMask = [("back_color", some [255, 255, 255]), ("top_color", some [0, 0, 0]), ("bottom_color", some [0, 0, 255])] ∧
    dr_cm_init_defaults_ImageColorMask = [("back_color", some [255, 255, 255]), ("color_mask_path", none), ("color_mask_image", none)] ∧
    dr_cm_init_stores_SolidFillColorMask = [("self.back_color", "back_color"), ("self.front_color", "front_color"),
      ("self.has_transparency", "len(self.back_color) == 4")] ∧
    dr_cm_init_stores_RadialGradiantColorMask = [("self.back_color", "back_color"), ("self.center_color", "center_color"),
      ("self.edge_color", "edge_color"), ("self.has_transparency", "len(self.back_color) == 4")] ∧
    dr_cm_init_stores_SquareGradiantColorMask = dr_cm_init_stores_RadialGradiantColorMask ∧
    dr_cm_init_stores_HorizontalGradiantColorMask = [("self.back_color", "back_color"), ("self.left_color", "left_color"),
      ("self.right_color", "right_color"), ("self.has_transparency", "len(self.back_color) == 4")] ∧
    dr_cm_init_stores_VerticalGradiantColorMask = [("self.back_color", "back_color"), ("self.top_color", "top_color"),
      ("self.bottom_color", "bottom_color"), ("self.has_transparency", "len(self.back_color) == 4")] ∧
    dr_cm_init_stores_ImageColorMask = [("self.back_color", "back_color"),
      ("stmt", "if color_mask_image:\n    self.color_img = color_mask_image\nelse:\n    self.color_img = Image.open(color_mask_path)"),
      ("self.has_transparency", "len(self.back_color) == 4")] := by
  and_intros <;> rfl

end SourceTieD5

/-! ### Capstones: the translated colour-mask loop, paint colour, logo geometry and drawers themselves satisfy the statements above. -/
section Capstone
open QR.Gen QR.Gen.Code QR.SourceTieD5

/-- **capstone, `image/styles/colormasks.py:QRColorMask.apply_mask`** (translated loop nest `cm_apply_mask` with `interp_color`,
    `extrap_color`; `fg x y` stands for `self.get_fg_pixel(image, x, y)`, a parameter): whenever the paint colour differs from the
    background, a pixel that is exactly the background colour (light module, quiet zone) stays exactly the background, a pixel
    that is exactly the paint colour (dark module of a square drawer) becomes exactly the foreground pixel, and pixels outside
    `width × height` are untouched.  From `C14_source_applyMask_src`, `C14_light`, `C14_square_dark`. -/
theorem C14_source_capstone_apply_mask (back paint : Colour) (fg : Nat → Nat → Colour) (width height : Nat)
    (image : Nat → Nat → Colour) (hfg : ∀ x y, back.length ≤ (fg x y).length) (hl : back.length = paint.length)
    (hne : paint ≠ back) (a b : Nat) :
    (a < width → b < height → image a b = back → Code.cm_apply_mask back paint fg width height image a b = back) ∧
    (a < width → b < height → back.length = (fg a b).length → image a b = paint →
      Code.cm_apply_mask back paint fg width height image a b = fg a b) ∧
    (¬(a < width ∧ b < height) → Code.cm_apply_mask back paint fg width height image a b = image a b) := by
  rw [C14_source_applyMask_src back paint fg width height image hfg a b]
  refine ⟨fun ha hb hi => ?_, fun ha hb hf hi => ?_, fun h => ?_⟩
  · rw [if_pos ⟨ha, hb⟩, hi]; exact C14_light back paint (fg a b) hl (hfg a b) hne
  · rw [if_pos ⟨ha, hb⟩, hi]; exact C14_square_dark back paint (fg a b) hl hf hne
  · rw [if_neg h]

/-- **capstone, `image/styledpil.py:StyledPilImage.__init__` (`self.paint_color`) + `colormasks.py:SolidFillColorMask.__init__`
    (`has_transparency`)** (translated `spil_paint_color`, `spil_has_transparency_*`; the same holds for the other five mask
    classes, whose translated `has_transparency` is the same expression): the paint colour equals the background exactly for
    a black RGB background and for an RGBA background of alpha 255 (finding D4).
    From `C14_source_paintColour_src`, `C14_paint_eq_back_iff`. -/
theorem C14_source_capstone_paint_colour (r g b : Int) :
    (spil_paint_color [r, g, b] (spil_has_transparency_SolidFillColorMask [r, g, b]) = [r, g, b] ↔ r = 0 ∧ g = 0 ∧ b = 0) ∧
    (∀ a, spil_paint_color [r, g, b, a] (spil_has_transparency_SolidFillColorMask [r, g, b, a]) = [r, g, b, a] ↔ a = 255) := by
  refine ⟨?_, fun a => ?_⟩
  · rw [← (C14_source_paintColour_src [r, g, b]).1]; exact (C14_paint_eq_back_iff r g b).1
  · rw [← (C14_source_paintColour_src [r, g, b, a]).1]; exact (C14_paint_eq_back_iff r g b).2 a

/-- **capstone (the D4 defect at source level), `StyledPilImage.__init__` + `QRColorMask.apply_mask`** (both translated): with
    an opaque RGBA background `(r, g, b, 255)` the translated paint colour is the background, and the translated `apply_mask`
    turns EVERY pixel of the image - whatever was drawn - into background.
    From `C14_source_applyMask_src`, `C14_source_paintColour_src`, `C14_paint_equals_back_blank`. -/
theorem C14_source_capstone_blank_defect (r g b : Int) (fg : Nat → Nat → Colour) (width height : Nat)
    (image : Nat → Nat → Colour) (hfg : ∀ x y, 4 ≤ (fg x y).length) (x y : Nat) (hx : x < width) (hy : y < height) :
    Code.cm_apply_mask [r, g, b, 255]
      (spil_paint_color [r, g, b, 255] (spil_has_transparency_SolidFillColorMask [r, g, b, 255])) fg width height image x y
      = [r, g, b, 255] := by
  rw [C14_source_applyMask_src [r, g, b, 255] _ fg width height image hfg x y, if_pos ⟨hx, hy⟩]
  exact C14_paint_equals_back_blank _ _ _ _ (((C14_source_capstone_paint_colour r g b).2 255).2 rfl)

/-- **capstone, `image/styledpil.py:StyledPilImage.draw_embeded_image`** (translated position / resize computation
    `spil_logo_box_of`, `w = int(total_width * ratio) ≤ total_width`): the paste position is `(off, off)` with `off` a whole number
    of modules, the logo `side × side` is centred (`off + side + off = total`), `w - 1 ≤ side ≤ w + 2·box - 1`, and a whole
    number of modules wide when the image is.  From `C14_source_logoGeometry_src`, `C14_logo`. -/
theorem C14_source_capstone_logo (total height box w : Nat) (hbox : 0 < box) (hw : w ≤ total) :
    ∃ off side : Nat,
      spil_logo_box_of (total : Int) (height : Int) (box : Int) (w : Int) = (((off : Int), (off : Int)), ((side : Int), (side : Int))) ∧
      box ∣ off ∧ off * 2 + side = total ∧ w ≤ side + 1 ∧ side + 1 ≤ w + 2 * box ∧ (box ∣ total → box ∣ side) := by
  have h := C14_logo total box w hbox hw
  exact ⟨(logoGeometry total box w).1, (logoGeometry total box w).2,
    C14_source_logoGeometry_src total height box w (Nat.div_le_div_right hw), h⟩

/-- **capstone, `image/styles/moduledrawers/pil.py`: `drawrect` / `initialize` / `setup_*` of all six Pillow drawers**
    (translated, assembled in `SourceTieD5.sourcePaints`; Pillow's `rectangle` / `paste` are recorded as painted rectangles):
    every rectangle painted for a module lies inside that module's pixel box (box size ≥ 1, ratio in [0, 1]), and a light module
    paints nothing.  `C14_drawer_inside_box` and `C14_drawer_light_nothing` are already statements about the translated code;
    this is their conjunction under one set of hypotheses. -/
theorem C14_source_capstone_drawers (d : Drawer) (bs : Int) (hbs : 1 ≤ bs) (ratio : Rat) (h0 : 0 ≤ ratio) (h1 : ratio ≤ 1)
    (x y : Int) (a : dr_Active) :
    (∀ p ∈ sourcePaints d bs ratio (moduleBox x y bs) a, p.2.inside (moduleBox x y bs)) ∧
    (a.me = false → sourcePaints d bs ratio (moduleBox x y bs) a = []) :=
  ⟨C14_drawer_inside_box d bs hbs ratio h0 h1 x y a, C14_drawer_light_nothing d bs (by omega) ratio x y a⟩

/-- the translated computations evaluated: 33 modules of 10 px with ratio 1/4; paint colour on opaque white RGBA / white RGB -/
example : spil_logo_box_of 330 330 10 82 = ((120, 120), (90, 90)) ∧
    spil_paint_color [255, 255, 255, 255] (spil_has_transparency_SolidFillColorMask [255, 255, 255, 255]) = [255, 255, 255, 255] ∧
    spil_paint_color [255, 255, 255] (spil_has_transparency_SolidFillColorMask [255, 255, 255]) = [0, 0, 0] := by decide
end Capstone

/-- the Python functions this property's model mirrors have, in /repo's current working tree, exactly the normalised
    ASTs the model was written and validated against (fingerprints regenerated by T1 on every run) -/
theorem C14_source_fingerprints : QR.Gen.fp_C14 = QR.Pinned.fp_C14 := rfl

end QR.Props
