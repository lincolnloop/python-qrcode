import QR.Proofs.C02Tables
import QR.Proofs.Blocks
import QR.Proofs.RSDiv
import QR.Proofs.Distance
import QR.Proofs.Pinned
import QR.Proofs.SourceTieC02
import QR.Proofs.SourceTieIndex
/-
C02 - every error-correction block is a codeword of the ISO Reed-Solomon code; block structure = ISO Table 9.
Per block `C02_codeword`, per symbol `C02_blocks` / `C02_block_structure`, what the code corrects `C02_distance` / `C02_unique_decoding`;
the field tables, generator polynomials and Table 9 are evaluated (`C02_field`, `C02_log`, `C02_generators`, `C02_table9`).
The three kinds of source obligation, here and in the other property files:
`Cxx_source_*` (bridges): a Model function equals the definitions that T2 translates from /repo's current Python AST (`QR.Gen.Code`,
rewritten on every run; DESIGN.md §11.10; the section comments name the translator plugin under tools/t2_fragments/);
`Cxx_source_capstone_*`: the property's statements about those translated definitions themselves (§11.15);
`Cxx_source_fingerprints`: the Python functions the model mirrors have the normalised ASTs it was validated against (§11.11).
-/
namespace QR.Props
open QR.Model

/-- `EXP_TABLE[i] = α^i` in GF(2)[x]/(x^8+x^4+x^3+x^2+1) for all 255 exponents (tables regenerated from the source) -/
theorem C02_field : ∀ i, i < 255 → Gen.EXP_TABLE[i]? = some (Spec.gfpow Spec.alpha i) := C02_field_exp

/-- `LOG_TABLE` inverts `EXP_TABLE` on the 255 non-zero field elements -/
theorem C02_log : ∀ a, a < 255 →
    (Gen.LOG_TABLE[a + 1]?).bind (fun k => if k < 255 then Gen.EXP_TABLE[k]? else none) = some (a + 1) := by
  intro a ha
  obtain ⟨hl, hp⟩ := Proofs.gfpow_lg (a := a + 1) (by omega) (by omega)
  rw [Proofs.log_getElem? (by omega), Option.bind_some, if_pos hl, C02_field_exp _ hl, hp]

/-- the generator look-up table holds the ISO generator ∏_{i<e}(x − α^i) for each of the 13 block shapes ... -/
theorem C02_generators : ∀ e ∈ eccLengths, Gen.rsPoly_LUT.lookup e = some (Spec.generator e) := C02_genpoly

/-- ... which is monic of degree e, has no zero coefficient and vanishes at α^0 .. α^(e-1) -/
theorem C02_roots : ∀ e ∈ eccLengths,
    (Spec.generator e).length = e + 1 ∧ (Spec.generator e).head? = some 1 ∧ (∀ c ∈ Spec.generator e, c ≠ 0 ∧ c < 256) ∧
    ∀ i, i < e → Spec.peval (Spec.gfpow Spec.alpha i) (Spec.generator e) = 0 := fun e he => by
  obtain ⟨gt, h, hl⟩ := QR.Proofs.generator_eq_cons e
  exact ⟨by rw [h, List.length_cons, hl], by rw [h]; rfl,
    fun c hc => ⟨generator_ne_zero e he c hc, QR.Proofs.generator_bytes e c hc⟩, fun _ hi => QR.Proofs.generator_root hi⟩

/-- `rs_blocks(v, level)` = ISO Table 9 (number of blocks, total and data codewords, short blocks first), 160 pairs -/
theorem C02_table9 : ∀ v, v < 40 → ∀ l ∈ allLevels,
    Model.rsBlocks (v + 1) l.indicator = .ok (Spec.isoBlocks (v + 1) l) := C02_table

/-- interleaving is exactly undone by the reader's de-interleaving, for ANY list of blocks -/
theorem C02_interleave (blocks : List (List Nat)) :
    Spec.deinterleave (blocks.map List.length) (Model.interleave blocks) = blocks :=
  QR.Interleave.deinterleave_interleave blocks

/-- **C02 (per block)**: for every block shape of Table 9 and EVERY data content (non-empty list of bytes - including
    all-zero and leading-zero blocks, where `Polynomial.__mod__` used to fail before the D1 repair) the error-correction
    codewords are computed, have the right length, and data ++ ec is a codeword of the ISO Reed-Solomon code: all e
    syndromes S_i = c(α^i) vanish in GF(256) -/
theorem C02_codeword (e : Nat) (he : e ∈ eccLengths) (dc : List Nat) (hne : dc ≠ []) (hb : ∀ c ∈ dc, c < 256) :
    ∃ ec, Model.ecOfBlock dc e = .ok ec ∧ ec.length = e ∧ (∀ c ∈ ec, c < 256) ∧ Spec.isCodeword e (dc ++ ec) = true :=
  QR.Proofs.ecOfBlock_codeword e he dc hne hb

/-- block structure of `create_bytes` for every (version, level) and every data content: the reader's view of the
    codeword sequence is the consecutive slices of the data (Table 9 lengths) each followed by its own EC codewords,
    nothing lost or reordered -/
theorem C02_block_structure (v : Nat) (hv : v < 40) (l : Spec.Level) (buf : List Nat)
    (hlen : buf.length = Spec.dataCodewords (v + 1) l) (hbytes : ∀ x ∈ buf, x < 256) :
    ∃ (bs : List (List Nat × List Nat)) (cw : List Nat), Model.createBytes buf (Spec.isoBlocks (v + 1) l) = .ok cw ∧
      cw.length = Spec.totalCodewords (v + 1) ∧
      Spec.blocksOf (v + 1) l cw = bs.map QR.Interleave.toBlock ∧
      (Spec.blocksOf (v + 1) l cw).flatMap (·.data) = buf ∧
      (∀ p ∈ bs, p.1 ≠ [] ∧ Model.ecOfBlock p.1 (Spec.eccLen (v + 1) l) = .ok p.2 ∧ p.2.length = Spec.eccLen (v + 1) l) := by
  obtain ⟨cw, h1, h2, _, h4, h5⟩ := QR.Proofs.createBytes_iso v hv l buf hlen hbytes
  refine ⟨(Spec.blocksOf (v + 1) l cw).map fun b => (b.data, b.ec), cw, h1, h2, ?_, h4, ?_⟩
  · rw [List.map_map]; exact (List.map_id _).symm
  · intro p hp
    obtain ⟨b, hb, rfl⟩ := List.mem_map.mp hp
    exact ⟨(h5 b hb).1, (h5 b hb).2.1, (h5 b hb).2.2.1⟩

/-- **C02 (per symbol)**: for all 160 (version, level) pairs and every content of the data codewords, `create_bytes`
    succeeds, yields exactly the ISO total number of codewords, and the reader's de-interleaving (ISO Table 9) returns
    blocks whose data parts concatenate to the input and each of which is a codeword of the ISO code for that pair -/
theorem C02_blocks (v : Nat) (hv : v < 40) (l : Spec.Level) (buf : List Nat)
    (hlen : buf.length = Spec.dataCodewords (v + 1) l) (hbytes : ∀ x ∈ buf, x < 256) :
    ∃ cw, Model.createBytes buf (Spec.isoBlocks (v + 1) l) = .ok cw ∧
      cw.length = Spec.totalCodewords (v + 1) ∧
      (Spec.blocksOf (v + 1) l cw).flatMap (·.data) = buf ∧
      ∀ b ∈ Spec.blocksOf (v + 1) l cw, Spec.isCodeword (Spec.eccLen (v + 1) l) (b.data ++ b.ec) = true := by
  obtain ⟨cw, h1, h2, _, h4, h5⟩ := QR.Proofs.createBytes_iso v hv l buf hlen hbytes
  exact ⟨cw, h1, h2, h4, fun b hb => (h5 b hb).2.2.2⟩

/-- **C02 (minimum distance)**: a non-zero codeword of length ≤ 255 of the code with e check symbols has at least e + 1
    non-zero symbols (BCH bound, by elimination on the syndromes as power sums; GF(256) with xor/gfmul is a field) -/
theorem C02_distance (e : Nat) (cw : List Nat) (hlen : cw.length ≤ 255) (hb : ∀ c ∈ cw, c < 256)
    (hcw : Spec.isCodeword e cw = true) (hnz : ∃ c ∈ cw, c ≠ 0) : e + 1 ≤ (cw.filter (· ≠ 0)).length :=
  QR.Proofs.codeword_weight e cw hlen hb hcw hnz

/-- **C02 (correctability)**: for every block shape of ISO Table 9 (all 160 pairs; every block has at most 153 codewords), a
    received word within ⌊e/2⌋ damaged codewords of a codeword determines that codeword uniquely - so any ≤ ⌊e/2⌋ damaged
    codewords per block are correctable -/
theorem C02_unique_decoding (v : Nat) (hv : v < 40) (l : Spec.Level) (b : Nat × Nat) (hbl : b ∈ Spec.isoBlocks (v + 1) l)
    (r c1 c2 : List Nat) (hr : r.length = b.1) (hc1 : c1.length = b.1) (hc2 : c2.length = b.1)
    (hb1 : ∀ c ∈ c1, c < 256) (hb2 : ∀ c ∈ c2, c < 256)
    (h1 : Spec.isCodeword (Spec.eccLen (v + 1) l) c1 = true) (h2 : Spec.isCodeword (Spec.eccLen (v + 1) l) c2 = true)
    (hd1 : QR.Proofs.hdist r c1 ≤ Spec.eccLen (v + 1) l / 2) (hd2 : QR.Proofs.hdist r c2 ≤ Spec.eccLen (v + 1) l / 2) : c1 = c2 :=
  QR.Proofs.C02_unique_decoding v hv l b hbl r c1 c2 hr hc1 hc2 hb1 hb2 h1 h2 hd1 hd2

/-! ### Bridges (plugin `frag_a.py`): `gexp`, `glog`, `rs_blocks`, `Polynomial.__init__` / `__mul__` / `__mod__`, `create_bytes`.
    The loop skeletons the statements speak of and the lemmas about the Model are in QR/Proofs/SourceTieC02.lean. -/
section SourceTieA
open QR.Gen.Code QR.SourceTieA

/-- **gexp**: `return EXP_TABLE[n % 255]` for every Python int `n`; the index is never negative -/
theorem C02_source_gexp_src (n : Int) :
    gexp_table = "EXP_TABLE" ∧ gexp n = idx Gen.EXP_TABLE (gexp_index n).toNat ∧ 0 ≤ gexp_index n := by
  refine ⟨rfl, rfl, ?_⟩
  unfold gexp_index
  omega

/-- **glog**: `if n < 1: raise ValueError` / `return LOG_TABLE[n]` -/
theorem C02_source_glog_src (n : Nat) :
    glog_exception = "ValueError" ∧ glog_table = "LOG_TABLE" ∧
    glog n = if glog_raises n then .error .valueError else idx Gen.LOG_TABLE (glog_index n).toNat := by
  refine ⟨rfl, rfl, ?_⟩
  unfold glog glog_raises glog_index
  by_cases h : n < 1
  · rw [if_pos h, if_pos (by simp; omega)]
  · rw [if_neg h, if_neg (by simp; omega)]
    simp

/-- for a negative Python int the translated guard raises as well (the Model's argument type is `Nat`) -/
theorem C02_source_glog_raises_neg (n : Int) (h : n < 0) : glog_raises n = true := by
  unfold glog_raises
  exact decide_eq_true (by omega)

/-- the row loop: `Model.rsRow` equals the loop assembled from the translated range `(0, len(rs_block), 3)`, slice
    `rs_block[i : i + 3]`, unpacking order and `RSBlock(total_count, data_count)` argument order -/
theorem C02_source_rsRow_src (row : List Nat) : rsRow row.length row = rsLoop row := by
  have hb : rsBody row = fun blocks i => rsChunk blocks ((row.drop i).take 3) := by
    funext blocks i
    unfold rsBody rsChunk slice rs_blocks_slice
    rw [Nat.add_sub_cancel_left]
  unfold rsLoop rangeStep rs_blocks_range
  rw [hb, Nat.sub_zero, Loops.foldlM_slices 3 row rsChunk, rsRow_slices _ _ _ (Nat.le_refl _)]
  cases rsRow row.length row <;> simp

theorem C02_source_rs_blocks_literals : rs_blocks_guard = ("error_correction not in RS_BLOCK_OFFSET", "Exception") ∧
    rs_blocks_offset_lookup = "RS_BLOCK_OFFSET[error_correction]" ∧ rs_blocks_table = "RS_BLOCK_TABLE" ∧
    rs_blocks_block_fields = ["total_count", "data_count"] := ⟨rfl, rfl, rfl, rfl⟩

/-- **rs_blocks**: for every level and every `version ≥ 1` (`check_version` guarantees it; for `version = 0` Python's
    negative index would wrap around) the Model is: dictionary lookup, row `RS_BLOCK_TABLE[(version - 1) * 4 + offset]`
    with the translated (Int) index expression, then the translated row loop. -/
theorem C02_source_rsBlocks_src (version level : Nat) (hv : 1 ≤ version) :
    rsBlocks version level =
      match Gen.RS_BLOCK_OFFSET.lookup level with
      | none => .error .other
      | some offset => idx Gen.RS_BLOCK_TABLE (rs_blocks_row_index version offset).toNat >>= rsLoop := by
  unfold rsBlocks
  cases Gen.RS_BLOCK_OFFSET.lookup level with
  | none => rfl
  | some offset =>
    have : (rs_blocks_row_index version offset).toNat = (version - 1) * 4 + offset := by
      unfold rs_blocks_row_index; omega
    simp only [this]
    congr 1
    funext row
    exact C02_source_rsRow_src row

/-- **Polynomial.__init__**: `Model.polyMk num shift` is: the translated emptiness guard (`if not num: raise Exception`),
    then `num[offset:] + [0] * shift` where `offset` is the value left by the translated scan loop
    `offset = 0; for offset in range(len(num)): if num[offset] != 0: break`. -/
theorem C02_source_polyMk_src (num : List Nat) (shift : Nat) :
    poly_init_exception = "Exception" ∧
    polyMk num shift =
      if poly_init_raises num.length then .error .other
      else
        let rng := poly_init_range num.length
        let offset := forBreak (fun o => poly_init_break (num.getD o 0)) (List.range' rng.1 (rng.2 - rng.1)) poly_init_offset0
        .ok (num.drop (poly_init_drop offset) ++ List.replicate (poly_init_pad shift).2 (poly_init_pad shift).1) := by
  refine ⟨rfl, ?_⟩
  unfold polyMk poly_init_raises
  cases num with
  | nil => simp
  | cons a t =>
    have h := stripZ_eq (a :: t) [] poly_init_offset0 (by simp)
    simp only [List.nil_append, List.length_nil] at h
    simp only [poly_init_range, poly_init_drop, poly_init_pad, Nat.sub_zero]
    rw [h]
    simp

/-- **Polynomial.__mul__**: allocation `[0] * (len(self) + len(other) - 1)` (a negative count gives the empty list, hence
    `Int.toNat`), the double `enumerate` loop with the translated index `i + j`, exponent `glog(item) + glog(other_item)`,
    update `^=`, and `Polynomial(num, 0)`. -/
theorem C02_source_polyMul_src (self other : List Nat) :
    poly_mul_glog_args = ["self", "other"] ∧
    polyMul self other =
      ((List.range self.length).foldlM (fun num i =>
          (List.range other.length).foldlM (fun num j =>
            glog (self.getD i 0) >>= fun l0 =>
            glog (other.getD j 0) >>= fun l1 =>
            gexp (poly_mul_exponent l0 l1) >>= fun e =>
            pure (num.set (poly_mul_index i j) (poly_mul_update (num.getD (poly_mul_index i j) 0) e))) num)
        (List.replicate (poly_mul_alloc_len self.length other.length).toNat poly_mul_alloc_elem)
        >>= fun num => polyMk num poly_mul_result_shift) := by
  refine ⟨rfl, ?_⟩
  have : (poly_mul_alloc_len self.length other.length).toNat = self.length + other.length - 1 := by
    unfold poly_mul_alloc_len; omega
  rw [this]
  rfl

/-- the first disjunct of the early return does not read `self[0]`, so the short-circuit `or` cannot raise there -/
theorem C02_source_poly_mod_done_0_iff (ls lo : Nat) : poly_mod_done_0 (poly_mod_difference ls lo) = decide (ls < lo) := by
  unfold poly_mod_done_0 poly_mod_difference
  by_cases h : ls < lo
  · rw [decide_eq_true h]; exact decide_eq_true (by omega)
  · rw [decide_eq_false h]; exact decide_eq_false (by omega)

/-- **Polynomial.__mod__** (one unfolding of the recursion, `fuel` bounding Python's recursion depth):
    `difference = len(self) - len(other)`; `if difference < 0 or self[0] == 0: return self` (short-circuit: the second
    disjunct reads `self[0]`); `ratio = glog(self[0]) - glog(other[0])`; the zip comprehension; `if difference:
    num.extend(self[-difference:])`; `return Polynomial(num, 0) % other`. -/
theorem C02_source_polyMod_src (fuel : Nat) (self other : List Nat) :
    polyMod (fuel + 1) self other =
      let difference := poly_mod_difference self.length other.length
      if poly_mod_done_0 difference then .ok self
      else
        idx self 0 >>= fun s0 =>
        if poly_mod_done_1 difference s0 then .ok self
        else
          glog s0 >>= fun ls0 =>
          idx other 0 >>= fun o0 =>
          glog o0 >>= fun lo0 =>
          modComp (poly_mod_ratio ls0 lo0) self other >>= fun num =>
          polyMk (if poly_mod_tail_test difference then num ++ pySliceFrom self (poly_mod_tail_lower difference) else num)
              poly_mod_rec_shift >>= fun p =>
          polyMod fuel p other := by
  rw [polyMod]
  have hd1 : ∀ (d : Int) (s0 : Nat), poly_mod_done_1 d s0 = decide (s0 = 0) := fun _ _ => rfl
  have hr : ∀ a b : Nat, poly_mod_ratio a b = (a : Int) - (b : Int) := fun _ _ => rfl
  have hs : poly_mod_rec_shift = 0 := rfl
  simp only [C02_source_poly_mod_done_0_iff, hd1, hr, hs, decide_eq_true_eq]
  by_cases hlt : self.length < other.length
  · rw [if_pos hlt, if_pos hlt]
  · rw [if_neg hlt, if_neg hlt]
    have htail : ∀ num : List Nat,
        (if poly_mod_tail_test (poly_mod_difference self.length other.length) then
            num ++ pySliceFrom self (poly_mod_tail_lower (poly_mod_difference self.length other.length)) else num)
          = num ++ self.drop other.length := by
      intro num
      unfold poly_mod_tail_test poly_mod_tail_lower pySliceFrom poly_mod_difference
      by_cases hd : (self.length : Int) - (other.length : Int) = 0
      · have : self.length ≤ other.length := by omega
        simp [hd, List.drop_eq_nil_of_le this]
      · have h1 : -((self.length : Int) - (other.length : Int)) < 0 := by omega
        have h2 : ((self.length : Int) + -((self.length : Int) - (other.length : Int))).toNat = other.length := by omega
        simp only [ne_eq, hd, not_false_eq_true, decide_true, if_true, h1, h2]
    simp only [htail, modStep_eq]

theorem C02_source_cb_literals :
    cb_lut = ("ecCount in LUT.rsPoly_LUT", "base.Polynomial(LUT.rsPoly_LUT[ecCount], 0)") ∧
    cb_fallback = ("base.Polynomial([1], 0)", "rsPoly * base.Polynomial([1, base.gexp(i)], 0)") ∧
    cb_ec_then = "modPoly[modIndex]" := ⟨rfl, rfl, rfl⟩

/-- the fallback loop `for i in range(ecCount): rsPoly = rsPoly * Polynomial([1, gexp(i)], 0)` over the translated range -/
theorem C02_source_rsPolyFallback_src (ecCount : Nat) :
    rsPolyFallback ecCount =
      (rangeI (cb_fallback_range ecCount)).foldlM (fun p (i : Nat) =>
        gexp (Int.ofNat i) >>= fun e => polyMk [1, e] 0 >>= fun q => polyMul p q) [1] := by
  unfold rsPolyFallback cb_fallback_range
  rw [rangeI_zero]

/-- **current_ec**: `rawPoly = Polynomial(current_dc, len(rsPoly) - 1)` (a negative count pads nothing, hence `toNat`),
    `modPoly = rawPoly % rsPoly`, `mod_offset = len(modPoly) - ecCount`, and for `i in range(ecCount)`:
    `modIndex = i + mod_offset`, `modPoly[modIndex] if modIndex >= 0 else 0`. -/
theorem C02_source_ecOfBlock_src (dc : List Nat) (ecCount : Nat) :
    ecOfBlock dc ecCount =
      rsPolyFor ecCount >>= fun rsPoly =>
      polyMk dc (cb_raw_shift rsPoly.length).toNat >>= fun rawPoly =>
      polyMod (rawPoly.length + 1) rawPoly rsPoly >>= fun modPoly =>
      pure ((rangeI (cb_ec_range ecCount)).map fun i =>
        if cb_ec_guard (cb_mod_index i (cb_mod_offset modPoly.length ecCount))
        then modPoly.getD (cb_mod_index i (cb_mod_offset modPoly.length ecCount)).toNat 0
        else cb_ec_else) := by
  have h1 : ∀ n : Nat, (cb_raw_shift n).toNat = n - 1 := by
    intro n; unfold cb_raw_shift; omega
  have h2 : cb_ec_range (ecCount : Int) = ((0 : Int), (ecCount : Int)) := rfl
  have h3 : ∀ x : Int, cb_ec_guard x = decide (x ≥ 0) := fun _ => rfl
  have h4 : ∀ (i : Nat) (o : Int), cb_mod_index i o = (i : Int) + o := fun _ _ => rfl
  have h5 : ∀ n : Nat, cb_mod_offset n (ecCount : Int) = (n : Int) - (ecCount : Int) := fun _ => rfl
  have h6 : cb_ec_else = 0 := rfl
  simp only [h1, h2, rangeI_zero, h3, h4, h5, h6, decide_eq_true_eq]
  rfl

theorem C02_source_cb_dc_elt_src (b : Nat) : cb_dc_elt b = b % 256 := by
  unfold cb_dc_elt
  rw [Nat.and_comm]
  exact Nat.and_two_pow_sub_one_eq_mod b 8

theorem C02_source_dcRead_src (buf : List Nat) (offset dcCount : Nat) :
    dcRead buf offset dcCount =
      if (buf.drop offset).length < dcCount then .error .indexError
      else .ok (((buf.drop offset).take dcCount).map (· % 256)) := by
  unfold dcRead rangeN cb_dc_range cb_dc_index
  have := mapM_idx_range' cb_dc_elt buf offset dcCount 0
  simp only [Nat.zero_add, Nat.sub_zero] at this ⊢
  rw [this, funext C02_source_cb_dc_elt_src]

/-- **main loop**: `Model.splitBlocks` on the buffer suffix starting at `offset` is the loop over `rs_blocks` with the
    translated `dcCount = rs_block.data_count`, `ecCount = rs_block.total_count - dcCount`, the comprehension
    `0xFF & buffer.buffer[i + offset] for i in range(dcCount)` and `offset += dcCount`. -/
theorem C02_source_splitBlocks_src (buf : List Nat) : ∀ (blocks : List (Nat × Nat)) (offset : Nat),
    splitBlocks (buf.drop offset) blocks = cbLoop buf offset blocks := by
  intro blocks
  induction blocks with
  | nil => intro _; unfold splitBlocks cbLoop; rfl
  | cons b rest ih =>
    obtain ⟨total, data⟩ := b
    intro offset
    unfold splitBlocks cbLoop
    rw [C02_source_dcRead_src]
    have h1 : cb_dc_count total data = data := rfl
    have h2 : (cb_ec_count total data data).toNat = total - data := by unfold cb_ec_count; omega
    have h3 : cb_offset_step offset data = offset + data := rfl
    rw [h1, h2, h3, ← ih (offset + data), List.drop_drop]
    by_cases hlt : (buf.drop offset).length < data
    · simp only [hlt, if_true]; rfl
    · simp only [hlt, if_false]; rfl

/-- **create_bytes**: the Model is the translated main loop started at `offset = 0`, followed by the two interleaving
    loops over `range(maxDcCount)` / `range(maxEcCount)` with the translated guards `i < len(dc)` / `i < len(ec)`,
    where `maxDcCount`, `maxEcCount` are accumulated with the translated `max(…)` updates. -/
theorem C02_source_createBytes_src (buf : List Nat) (blocks : List (Nat × Nat)) :
    createBytes buf blocks =
      cbLoop buf cb_offset0 blocks >>= fun bs =>
      pure (ilLoop (rangeN (cb_il_dc_range (cbMaxDc blocks))) cb_il_dc_guard (bs.map (·.1)) ++
            ilLoop (rangeI (cb_il_ec_range (cbMaxEc blocks))) cb_il_ec_guard (bs.map (·.2))) := by
  unfold createBytes
  have h0 : cbLoop buf cb_offset0 blocks = splitBlocks buf blocks := by
    rw [← C02_source_splitBlocks_src]; rfl
  rw [h0]
  cases hs : splitBlocks buf blocks with
  | error e => rfl
  | ok bs =>
    obtain ⟨hl1, hl2⟩ := QR.Interleave.splitBlocks_lengths hs
    have hdc : (cb_il_dc_range (cbMaxDc blocks)) = (0, ((bs.map (·.1)).map List.length).foldl max 0) := by
      rw [cbMaxDc_eq, ← hl1, List.map_map]
      rfl
    have hec : rangeI (cb_il_ec_range (cbMaxEc blocks)) = List.range (((bs.map (·.2)).map List.length).foldl max 0) := by
      rw [List.map_map, show (List.length ∘ fun b : List Nat × List Nat => b.2) = fun b => b.2.length from rfl, hl2,
        ← cbMaxEc_toNat]
      unfold rangeI cb_il_ec_range
      simp [List.range_eq_range']
    rw [hdc, rangeN_zero, hec]
    simp only [R.bind_ok, R.pure_eq, interleave_eq]
    rfl

end SourceTieA

/-! ### Bridges (plugin `frag_d6.py`, small functions translated whole as `Gen.Code.lo_*`): the accessors of `Polynomial`.
    The index preludes are in QR/Proofs/SourceTieIndex.lean. -/
section SourceTieD6
open QR.Gen.Code QR.SourceTieD6

/-- `Polynomial.__getitem__`, `__iter__`, `__len__` (qrcode/base.py) all read the attribute `Polynomial.__init__` stores -/
theorem C02_source_poly_accessors_literals :
    lo_poly_init_stores = [lo_poly_getitem_attr] ∧ lo_poly_iter_attr = lo_poly_getitem_attr ∧
    lo_poly_len_attr = lo_poly_getitem_attr := ⟨rfl, rfl, rfl⟩

/-- `Polynomial.__getitem__`: the `idx self i` / `self.getD i 0` by which `Model.polyMod` / `Model.polyMul` read `self[i]`
    are the translated `return self.num[index]` -/
theorem C02_source_poly_getitem_src (num : List Nat) (i : Nat) :
    idx num i = (match lo_poly_getitem num (i : Int) with | some a => .ok a | none => .error .indexError) ∧
    num.getD i 0 = (lo_poly_getitem num (i : Int)).getD 0 := by
  unfold lo_poly_getitem idx
  rw [py_getitem_nat]
  cases h : num[i]? <;> simp [List.getD, h]

/-- `Polynomial.__len__` / `__iter__`: the Model's `self.length` and its iteration of the coefficient list are the translated
    `len(self.num)` / `iter(self.num)` -/
theorem C02_source_poly_len_iter_src (num : List Nat) : lo_poly_len num = (num.length : Int) ∧ lo_poly_iter num = num := ⟨rfl, rfl⟩

end SourceTieD6

/-! ### Capstones.  The `…Src` functions (end of QR/Proofs/SourceTieC02.lean) are the right-hand sides of the bridges above: the
    Python function assembled from the `Gen.Code` fragments, each callee that is not translated in place an explicit parameter. -/
section Capstone
open QR.Gen.Code QR.SourceTieA QR.CapstoneE2

theorem C02_source_ecOfBlockSrc_eq (dc : List Nat) (ecCount : Nat) :
    ecOfBlockSrc rsPolyFor polyMk polyMod dc ecCount = ecOfBlock dc ecCount :=
  (C02_source_ecOfBlock_src dc ecCount).symm

theorem C02_source_createBytesSrc_eq (buf : List Nat) (blocks : List (Nat × Nat)) :
    createBytesSrc (ecOfBlockSrc rsPolyFor polyMk polyMod) buf blocks = createBytes buf blocks := by
  have e : ecOfBlockSrc rsPolyFor polyMk polyMod = ecOfBlock := by
    funext dc ecCount; exact C02_source_ecOfBlockSrc_eq dc ecCount
  rw [C02_source_createBytes_src, e]
  unfold createBytesSrc
  rw [cbLoopP_ecOfBlock]

theorem C02_source_rsBlocksSrc_eq (version level : Nat) (hv : 1 ≤ version) : rsBlocksSrc version level = rsBlocks version level :=
  (C02_source_rsBlocks_src version level hv).symm

/-- **capstone, base.py:rs_blocks → util.py:create_bytes (main loop, `current_ec` computation, both interleaving loops)**:
    for all 160 (version, level) pairs and every content of the data codewords, the translated `rs_blocks` (dictionary
    lookup, row index, row loop) followed by the translated `create_bytes` succeeds, yields exactly the ISO total number of
    codewords, and the reader's de-interleaving (ISO Table 9) returns blocks whose data parts concatenate to the input and
    each of which is a codeword of the ISO Reed-Solomon code (all syndromes vanish).  Partly translated chain: inside
    `current_ec` the callees `Polynomial.__init__` (`Model.polyMk`), `Polynomial.__mod__` (`Model.polyMod`) and the generator
    lookup / fallback loop (`Model.rsPolyFor`) are parameters instantiated by the Model functions; they are tied to the source
    separately by `C02_source_polyMk_src`, `C02_source_polyMod_src` (one unfolding of the recursion),
    `C02_source_rsPolyFallback_src`.  From `C02_source_rsBlocks_src`, `C02_source_createBytes_src`,
    `C02_source_ecOfBlock_src`, `C02_table9` and `C02_blocks`. -/
theorem C02_source_capstone_blocks (v : Nat) (hv : v < 40) (l : Spec.Level) (buf : List Nat)
    (hlen : buf.length = Spec.dataCodewords (v + 1) l) (hbytes : ∀ x ∈ buf, x < 256) :
    ∃ cw, (rsBlocksSrc (v + 1) l.indicator >>= fun blocks =>
            createBytesSrc (ecOfBlockSrc rsPolyFor polyMk polyMod) buf blocks) = .ok cw ∧
      cw.length = Spec.totalCodewords (v + 1) ∧
      (Spec.blocksOf (v + 1) l cw).flatMap (·.data) = buf ∧
      ∀ b ∈ Spec.blocksOf (v + 1) l cw, Spec.isCodeword (Spec.eccLen (v + 1) l) (b.data ++ b.ec) = true := by
  obtain ⟨cw, h1, h2, h3, h4⟩ := C02_blocks v hv l buf hlen hbytes
  refine ⟨cw, ?_, h2, h3, h4⟩
  rw [C02_source_rsBlocksSrc_eq (v + 1) l.indicator (by omega),
    C02_table9 v hv l (mem_allLevels l), R.bind_ok, C02_source_createBytesSrc_eq]
  exact h1

/-- **capstone, util.py:create_bytes, the `current_ec` computation of one block** (translated: the shift
    `len(rsPoly) - 1`, `mod_offset`, the range, `modIndex`, the guard `modIndex >= 0` and the else-value; parameters
    instantiated by Model functions: `Polynomial.__init__`, `Polynomial.__mod__`, generator lookup - see above): for every
    block shape of ISO Table 9 and EVERY non-empty list of data bytes the EC codewords are computed, have the right length,
    are bytes, and data ++ ec is a codeword of the ISO Reed-Solomon code; from `C02_source_ecOfBlock_src` and `C02_codeword`. -/
theorem C02_source_capstone_codeword (e : Nat) (he : e ∈ eccLengths) (dc : List Nat) (hne : dc ≠ []) (hb : ∀ c ∈ dc, c < 256) :
    ∃ ec, ecOfBlockSrc rsPolyFor polyMk polyMod dc e = .ok ec ∧ ec.length = e ∧ (∀ c ∈ ec, c < 256) ∧
      Spec.isCodeword e (dc ++ ec) = true := by
  rw [C02_source_ecOfBlockSrc_eq]
  exact C02_codeword e he dc hne hb

/-- **capstone, base.py:rs_blocks** (translated whole: `RS_BLOCK_OFFSET[error_correction]`, the row index
    `(version - 1) * 4 + offset`, the loop over `range(0, len(rs_block), 3)` with slice, unpacking and `RSBlock` argument
    order; tables regenerated from the source): the result is ISO Table 9 for all 160 pairs; from `C02_source_rsBlocks_src`
    and `C02_table9`. -/
theorem C02_source_capstone_table9 (v : Nat) (hv : v < 40) (l : Spec.Level) (hl : l ∈ allLevels) :
    rsBlocksSrc (v + 1) l.indicator = .ok (Spec.isoBlocks (v + 1) l) := by
  rw [C02_source_rsBlocksSrc_eq (v + 1) l.indicator (by omega)]
  exact C02_table9 v hv l hl

/-- **capstone, util.py:create_bytes (block structure)**: the translated main loop and interleaving loops, for any block
    list given by ISO Table 9: the reader's view of the codeword sequence is the consecutive data slices each followed by
    the EC codewords the (parameter) per-block computation returns for it; from `C02_source_createBytes_src` and
    `C02_block_structure`.  The hypothesis `hec` is not used: `C02_source_capstone_codeword` proves it. -/
theorem C02_source_capstone_block_structure (v : Nat) (hv : v < 40) (l : Spec.Level) (buf : List Nat)
    (hlen : buf.length = Spec.dataCodewords (v + 1) l) (hbytes : ∀ x ∈ buf, x < 256)
    (hec : ∀ (dc : List Nat) (e : Nat), dc ≠ [] → (∀ x ∈ dc, x < 256) →
      e ∈ [7, 10, 13, 15, 16, 17, 18, 20, 22, 24, 26, 28, 30] →
      ∃ ec, ecOfBlockSrc rsPolyFor polyMk polyMod dc e = .ok ec ∧ ec.length = e) :
    ∃ (bs : List (List Nat × List Nat)) (cw : List Nat),
      createBytesSrc (ecOfBlockSrc rsPolyFor polyMk polyMod) buf (Spec.isoBlocks (v + 1) l) = .ok cw ∧
      cw.length = Spec.totalCodewords (v + 1) ∧
      Spec.blocksOf (v + 1) l cw = bs.map QR.Interleave.toBlock ∧
      (Spec.blocksOf (v + 1) l cw).flatMap (·.data) = buf ∧
      (∀ p ∈ bs, p.1 ≠ [] ∧ ecOfBlockSrc rsPolyFor polyMk polyMod p.1 (Spec.eccLen (v + 1) l) = .ok p.2 ∧
        p.2.length = Spec.eccLen (v + 1) l) := by
  simp only [C02_source_ecOfBlockSrc_eq, C02_source_createBytesSrc_eq]
  exact C02_block_structure v hv l buf hlen hbytes

/-- the capstone chain at a concrete input: version 1-M (one block, 16 data + 10 EC codewords), the data codewords of the
    ISO Annex I example "01234567": the translated `rs_blocks` + `create_bytes` return the published final codeword sequence -/
example : (rsBlocksSrc 1 Spec.Level.M.indicator >>= fun blocks =>
      createBytesSrc (ecOfBlockSrc rsPolyFor polyMk polyMod)
        [0x10, 0x20, 0x0C, 0x56, 0x61, 0x80, 0xEC, 0x11, 0xEC, 0x11, 0xEC, 0x11, 0xEC, 0x11, 0xEC, 0x11] blocks) =
    .ok [0x10, 0x20, 0x0C, 0x56, 0x61, 0x80, 0xEC, 0x11, 0xEC, 0x11, 0xEC, 0x11, 0xEC, 0x11, 0xEC, 0x11,
         0xA5, 0x24, 0xD4, 0xC1, 0xED, 0x36, 0xC7, 0x87, 0x2C, 0x55] := by decide +kernel

end Capstone

/-- the Python functions this property's model mirrors have, in /repo's current working tree, exactly the normalised
    ASTs the model was written and validated against (fingerprints regenerated by T1 on every run) -/
theorem C02_source_fingerprints : QR.Gen.fp_C02 = QR.Pinned.fp_C02 := by decide

end QR.Props
