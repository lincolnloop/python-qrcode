import QR.Model.Compile
import QR.Spec.Stream
import QR.Proofs.Total
import QR.Proofs.Pinned
import QR.Proofs.Implicit
import QR.Proofs.CapstoneCompile
/-
C03 - compile succeeds or raises DataOverflowError, decided by capacity.
`Model.compile cfg segs` mirrors `QRCode(version, error_correction, mask_pattern)` + `add_data` + `make(fit)`:
`chooseVersion` (the `best_fit` calls), `create_data`, `best_mask_pattern` (when no mask was requested), `makeImpl`.
Hypotheses: `cfg.Valid` (what the constructor's `check_version` / `_check_mask_pattern` accept), a level that is one
of the four ISO indicators, and segments as `QRData(check_data=True)` produces them.  Unbounded in the payload.
`C03_total`, `C03_iff`, `C03_version`, `C03_ok_range` are read off `Proofs.compile_char` (QR/Proofs/Total.lean); the entry points that
compile implicitly: `C03_entry_points`.
`C03_source_*`: bridges, capstones and the fingerprint obligation (the three kinds are explained at the head of Props/C02.lean).
-/
namespace QR.Props

/-- regression witness of a repaired defect, checked on the model by kernel evaluation: (D1) an all-zero data block does not
    make the Reed-Solomon division fail.  (The other repaired defect, (D2) a payload beyond version 40 with fitting on is a
    DataOverflowError, not a ValueError, has no witness of its own: `C03_total` excludes every other exception.) -/
theorem C03_witness_zero_block :
    (Model.ecOfBlock (List.replicate 9 0) 17).toOption = some (List.replicate 17 0) := by decide +kernel

/-- the validity predicate on configurations, spelled out: version `None` (0) or 1..40, mask `None` or 0..7 -/
theorem C03_valid_iff (cfg : Model.Cfg) :
    cfg.Valid ↔ cfg.version ≤ 40 ∧ ∀ m, cfg.mask = some m → m ≤ 7 := Iff.rfl

/-- `create_data` is total on valid segments at every version 1..40 and level: it yields exactly the ISO number of
    codewords when the stream fits, and raises DataOverflowError otherwise -/
theorem C03_createData (v : Nat) (h1 : 1 ≤ v) (h40 : v ≤ 40) (l : Spec.Level) (segs : List Model.Seg)
    (hv : ∀ s ∈ segs, s.Valid) (ps : List Spec.PSeg) (hp : toPSegs segs = some ps) :
    (Spec.fits v l (segCounts ps) = true →
      ∃ cw, Model.createData v l.indicator segs = .ok cw ∧ cw.length = Spec.totalCodewords v) ∧
    (Spec.fits v l (segCounts ps) = false → Model.createData v l.indicator segs = .error .dataOverflow) := by
  rcases QR.Proofs.createData_char h1 h40 l hv hp with ⟨cw, hcw, hfit, hdata⟩ | ⟨he, hnf⟩
  · exact ⟨fun _ => ⟨cw, hcw, hdata.length⟩, fun hf => Bool.noConfusion (hfit.symm.trans hf)⟩
  · exact ⟨fun hf => Bool.noConfusion (hf.symm.trans hnf), fun _ => he⟩

/-- `makeImpl` never fails for a version 1..40 and a mask pattern 0..7, whatever the codewords -/
theorem C03_makeImpl (v : Nat) (h1 : 1 ≤ v) (h40 : v ≤ 40) (level mask : Nat) (hm : mask ≤ 7) (test : Bool)
    (data : List Nat) : ∃ M, Model.makeImpl v level test mask data = .ok M :=
  (QR.makeImpl_ok_iff v level test mask data).2 ⟨h40, Nat.lt_succ_of_le hm⟩

/-- `best_mask_pattern` never fails and returns one of the eight patterns -/
theorem C03_bestMaskPattern (v : Nat) (h1 : 1 ≤ v) (h40 : v ≤ 40) (level : Nat) (data : List Nat) :
    ∃ k, Model.bestMaskPattern v level data = .ok k ∧ k ≤ 7 :=
  QR.Proofs.bestMaskPattern_total v h40 level data

/-- a stream that fits some version 1..40 (written with that version's count-field widths) also fits version 40:
    "no version from the start up to 40 is adequate" is the same as "version 40 is not adequate" -/
theorem C03_fits_forty (l : Spec.Level) (cs : List (Spec.Mode × Nat)) (u : Nat) (h1 : 1 ≤ u) (h40 : u ≤ 40)
    (h : Spec.fits u l cs = true) : Spec.fits 40 l cs = true :=
  QR.Proofs.fits_forty l cs u h1 h40 h

/-- **C03 (main, totality)**: for every payload and every valid setting, compiling a symbol either succeeds or fails
    with DataOverflowError; no other exception escapes for any data content -/
theorem C03_total (cfg : Model.Cfg) (hcfg : cfg.Valid) (l : Spec.Level) (hl : cfg.level = l.indicator)
    (segs : List Model.Seg) (hv : ∀ s ∈ segs, s.Valid) :
    (∃ r, Model.compile cfg segs = .ok r) ∨ Model.compile cfg segs = .error .dataOverflow :=
  QR.Proofs.C03_total cfg hcfg l hl segs hv

/-- **C03 (main, criterion)**: it fails exactly when the encoded bit stream exceeds the data capacity of the largest
    admissible version - the requested version when one is given and fitting is disabled, version 40 otherwise -/
theorem C03_iff (cfg : Model.Cfg) (hcfg : cfg.Valid) (l : Spec.Level) (hl : cfg.level = l.indicator)
    (segs : List Model.Seg) (hv : ∀ s ∈ segs, s.Valid) (ps : List Spec.PSeg) (hp : toPSegs segs = some ps) :
    Model.compile cfg segs = .error .dataOverflow ↔
      Spec.fits (if cfg.version ≠ 0 ∧ cfg.fit = false then cfg.version else 40) l (segCounts ps) = false :=
  QR.Proofs.C03_iff cfg hcfg l hl segs hv ps hp

/-- **C03 (main, result)**: on success the version is the smallest adequate one from the requested start when
    fitting (`cfg.version = 0`, Python's `None`, meaning start 1), the requested version when fitting is off (the
    smallest adequate one overall when none was requested); a requested mask pattern is the one used -/
theorem C03_version (cfg : Model.Cfg) (hcfg : cfg.Valid) (l : Spec.Level) (hl : cfg.level = l.indicator)
    (segs : List Model.Seg) (hv : ∀ s ∈ segs, s.Valid) (ps : List Spec.PSeg) (hp : toPSegs segs = some ps)
    (v m : Nat) (M : Model.Mat) (h : Model.compile cfg segs = .ok (v, m, M)) :
    (if cfg.fit then Spec.minVersion cfg.version l (segCounts ps) = some v
     else (cfg.version ≠ 0 → v = cfg.version) ∧ (cfg.version = 0 → Spec.minVersion 0 l (segCounts ps) = some v)) ∧
    (∀ m', cfg.mask = some m' → m = m') :=
  QR.Proofs.C03_version cfg hcfg l hl segs hv ps hp v m M h

/-- on success the version is in 1..40 and adequate, and the mask used is one of the eight patterns -/
theorem C03_ok_range (cfg : Model.Cfg) (hcfg : cfg.Valid) (l : Spec.Level) (hl : cfg.level = l.indicator)
    (segs : List Model.Seg) (hv : ∀ s ∈ segs, s.Valid) (ps : List Spec.PSeg) (hp : toPSegs segs = some ps)
    (v m : Nat) (M : Model.Mat) (h : Model.compile cfg segs = .ok (v, m, M)) :
    1 ≤ v ∧ v ≤ 40 ∧ m ≤ 7 ∧ Spec.fits v l (segCounts ps) = true :=
  QR.Proofs.C03_ok_range cfg hcfg l hl segs hv ps hp v m M h

/-- non-vacuity: all four ISO levels and both kinds of configuration satisfy the hypotheses -/
example : (⟨0, Spec.Level.L.indicator, none, true⟩ : Model.Cfg).Valid := ⟨by decide, fun _ h => by cases h⟩
example : (⟨40, Spec.Level.H.indicator, some 7, false⟩ : Model.Cfg).Valid :=
  ⟨by decide, fun m h => by cases h; decide⟩

/-- the published boundaries, on the Spec side of `C03_iff`: 7089 / 7090 digits at 40-L, 17 / 18 bytes at 1-L -/
example : Spec.fits 40 .L [(.numeric, 7089)] = true ∧ Spec.fits 40 .L [(.numeric, 7090)] = false ∧
    Spec.fits 1 .L [(.byte, 17)] = true ∧ Spec.fits 1 .L [(.byte, 18)] = false := by decide

/-! ### Capstones: the whole compile assembled from translated parts (`compileSrc`, `compileCallsSrc` of
    QR/Proofs/CapstoneCompile.lean, their callees instantiated as in Props/C01.lean) satisfies the statements above.  What is
    translated, what is hand-assembled and which Model callees are left is said once, in the section comment "Capstones" of
    Props/C01.lean. -/
section Capstone
open QR.Model QR.SourceTieD1 QR.CapstoneE1 QR.CapstoneE2 QR.CapstoneE4

/-- **capstone, main.py:QRCode.make -> best_fit -> util.py:create_data -> best_mask_pattern -> makeImpl (the whole compile, see the
    section comment for what is translated and what is a parameter)**: for every valid configuration, each of the four levels and
    every list of valid segments, the compile assembled from the translated source either succeeds or raises DataOverflowError -
    nothing else, for any data content; from `compileSrc_eq_refined` and `C03_total`. -/
theorem C03_source_capstone_total (find_bytes : List Nat → R Nat) (hfb : ∀ a, find_bytes [a] = alphaFind a)
    (cfg : Model.Cfg) (hcfg : cfg.Valid) (l : Spec.Level) (hl : cfg.level = l.indicator)
    (segs : List Model.Seg) (hv : ∀ s ∈ segs, s.Valid) :
    (∃ r, compileSrc (bestFitSrc modeSizesSrc (segsBitsSrc (writeBufSrc find_bytes)) Gen.BIT_LIMIT_TABLE bisectLeft checkVersionSrc 4)
        (createDataSrc (segsBitsBufSrc find_bytes) (ecOfBlockSrc rsPolyFor polyMk polyMod)) (makeImplSrc bchDigitSrc) lostPointSrc cfg segs = .ok r) ∨
    compileSrc (bestFitSrc modeSizesSrc (segsBitsSrc (writeBufSrc find_bytes)) Gen.BIT_LIMIT_TABLE bisectLeft checkVersionSrc 4)
        (createDataSrc (segsBitsBufSrc find_bytes) (ecOfBlockSrc rsPolyFor polyMk polyMod)) (makeImplSrc bchDigitSrc) lostPointSrc cfg segs
      = .error .dataOverflow := by
  rw [compileSrc_eq_refined find_bytes hfb cfg (hl ▸ l.indicator_lt)]
  exact C03_total cfg hcfg l hl segs hv

/-- **capstone, same chain: the criterion** - the assembled compile raises DataOverflowError exactly when the closed-form ISO
    length of the bit stream (`Spec.fits`: mode indicators, count fields of the version's class, data bits against the Table 7
    capacity) exceeds the capacity of the largest admissible version: the requested one when fitting is off, 40 otherwise; from
    `compileSrc_eq_refined` and `C03_iff`. -/
theorem C03_source_capstone_iff (find_bytes : List Nat → R Nat) (hfb : ∀ a, find_bytes [a] = alphaFind a)
    (cfg : Model.Cfg) (hcfg : cfg.Valid) (l : Spec.Level) (hl : cfg.level = l.indicator)
    (segs : List Model.Seg) (hv : ∀ s ∈ segs, s.Valid) (ps : List Spec.PSeg) (hp : toPSegs segs = some ps) :
    compileSrc (bestFitSrc modeSizesSrc (segsBitsSrc (writeBufSrc find_bytes)) Gen.BIT_LIMIT_TABLE bisectLeft checkVersionSrc 4)
        (createDataSrc (segsBitsBufSrc find_bytes) (ecOfBlockSrc rsPolyFor polyMk polyMod)) (makeImplSrc bchDigitSrc) lostPointSrc cfg segs
      = .error .dataOverflow ↔
      Spec.fits (if cfg.version ≠ 0 ∧ cfg.fit = false then cfg.version else 40) l (segCounts ps) = false := by
  rw [compileSrc_eq_refined find_bytes hfb cfg (hl ▸ l.indicator_lt)]
  exact C03_iff cfg hcfg l hl segs hv ps hp

/-- **capstone, same chain: the result** - when the assembled compile succeeds, the version it reports is in 1..40 and adequate
    (`Spec.fits`), it is the Spec's smallest adequate version from the requested start when fitting (the requested version when
    fitting is off; the smallest adequate one overall when none was requested), the mask is one of the eight patterns, and a
    requested mask is the one used; from `compileSrc_eq_refined`, `C03_version` and `C03_ok_range`. -/
theorem C03_source_capstone_version (find_bytes : List Nat → R Nat) (hfb : ∀ a, find_bytes [a] = alphaFind a)
    (cfg : Model.Cfg) (hcfg : cfg.Valid) (l : Spec.Level) (hl : cfg.level = l.indicator)
    (segs : List Model.Seg) (hv : ∀ s ∈ segs, s.Valid) (ps : List Spec.PSeg) (hp : toPSegs segs = some ps)
    (v m : Nat) (M : Model.Mat)
    (h : compileSrc (bestFitSrc modeSizesSrc (segsBitsSrc (writeBufSrc find_bytes)) Gen.BIT_LIMIT_TABLE bisectLeft checkVersionSrc 4)
        (createDataSrc (segsBitsBufSrc find_bytes) (ecOfBlockSrc rsPolyFor polyMk polyMod)) (makeImplSrc bchDigitSrc) lostPointSrc cfg segs
      = .ok (v, m, M)) :
    (if cfg.fit then Spec.minVersion cfg.version l (segCounts ps) = some v
     else (cfg.version ≠ 0 → v = cfg.version) ∧ (cfg.version = 0 → Spec.minVersion 0 l (segCounts ps) = some v)) ∧
    (∀ m', cfg.mask = some m' → m = m') ∧ 1 ≤ v ∧ v ≤ 40 ∧ m ≤ 7 ∧ Spec.fits v l (segCounts ps) = true := by
  rw [compileSrc_eq_refined find_bytes hfb cfg (hl ▸ l.indicator_lt)] at h
  obtain ⟨a, b⟩ := C03_version cfg hcfg l hl segs hv ps hp v m M h
  exact ⟨a, b, C03_ok_range cfg hcfg l hl segs hv ps hp v m M h⟩

/-- **capstone, main.py:QRCode.add_data (translated, with the segmentation below it) -> the chain above**: byte strings added by
    `add_data(d, optimize=n)` (any thresholds; `re` = `searchModel` / `matchModel`, each `while data:` granted `F d ≥ len(d)`
    iterations), any valid configuration: the translated `add_data` calls followed by the assembled compile either succeed or
    raise DataOverflowError - `add_data` itself raises nothing; from `compileCallsSrc_eq_refined` (`C10_source_addData`),
    `Seg.addData_calls_valid` and `C03_total`. -/
theorem C03_source_capstone_total_calls (find_bytes : List Nat → R Nat) (hfb : ∀ a, find_bytes [a] = alphaFind a)
    (F enc) (hF : ∀ d : List Nat, d.length ≤ F d)
    (cfg : Model.Cfg) (hcfg : cfg.Valid) (l : Spec.Level) (hl : cfg.level = l.indicator)
    (calls : List (List Nat × Nat)) (hb : ∀ p ∈ calls, ∀ c ∈ p.1, c < 256) :
    (∃ r, compileCallsSrc (pyModel F enc)
        (bestFitSrc modeSizesSrc (segsBitsSrc (writeBufSrc find_bytes)) Gen.BIT_LIMIT_TABLE bisectLeft checkVersionSrc 4)
        (createDataSrc (segsBitsBufSrc find_bytes) (ecOfBlockSrc rsPolyFor polyMk polyMod)) (makeImplSrc bchDigitSrc) lostPointSrc cfg calls = .ok r) ∨
    compileCallsSrc (pyModel F enc)
        (bestFitSrc modeSizesSrc (segsBitsSrc (writeBufSrc find_bytes)) Gen.BIT_LIMIT_TABLE bisectLeft checkVersionSrc 4)
        (createDataSrc (segsBitsBufSrc find_bytes) (ecOfBlockSrc rsPolyFor polyMk polyMod)) (makeImplSrc bchDigitSrc) lostPointSrc cfg calls
      = .error .dataOverflow := by
  rw [compileCallsSrc_eq_refined F enc hF find_bytes hfb cfg (hl ▸ l.indicator_lt)]
  exact C03_total cfg hcfg l hl _ (Seg.addData_calls_valid calls hb)

/-- **capstone, main.py:QRCode.make on the real object, with both caches** (`QR.CapstoneE3.makeSrc`, a PARTLY translated chain: which
    pieces of `make(fit)` are translated and which callees are the Model's is said at `C11_source_capstone_make`, Props/C11.lean):
    on any object with valid settings, valid data and a sound process-wide cache of blanks `g` (`GInv`), the assembled `make(fit)`
    returns normally or raises DataOverflowError, nothing else; from `CapstoneE3.makeSrc_eq`, `makeS_error` (CachedCompile) and
    `C03_total`. -/
theorem C03_source_capstone_make_total (fit : Bool) (g : Model.Global) (s : Model.QRState) (l : Spec.Level)
    (hg : GInv g) (hver : s.version ≤ 40) (hm : ∀ m, s.mask = some m → m ≤ 7) (hl : s.level = l.indicator)
    (hsegs : ∀ x ∈ s.dataList, x.Valid) :
    (QR.CapstoneE3.makeSrc fit g s).2 = .ok () ∨ (QR.CapstoneE3.makeSrc fit g s).2 = .error .dataOverflow := by
  rw [QR.CapstoneE3.makeSrc_eq]
  cases h : makeS fit (g, s) with
  | mk st r =>
    obtain ⟨g', s'⟩ := st
    cases r with
    | ok u => exact Or.inl rfl
    | error e =>
      have hc := (makeS_error hg h).error hver
      rcases C03_total (cfgOf s fit) ⟨hver, hm⟩ l hl s.dataList hsegs with ⟨r, hr⟩ | hr
      · rw [hc] at hr; cases hr
      · rw [hc] at hr; cases hr; exact Or.inr rfl

set_option maxRecDepth 100000 in
/-- both sides of `C03_source_capstone_iff` at a concrete input, evaluated by the kernel on the assembled translated definitions:
    18 bytes at version 1-L with fitting off - the assembled compile raises DataOverflowError, and `Spec.fits` says `false`
    (17 bytes is the published capacity of 1-L) -/
example : (match compileSrc (bestFitSrc modeSizesSrc (segsBitsSrc (writeBufSrc findBytes1)) Gen.BIT_LIMIT_TABLE bisectLeft checkVersionSrc 4)
        (createDataSrc (segsBitsBufSrc findBytes1) (ecOfBlockSrc rsPolyFor polyMk polyMod)) (makeImplSrc bchDigitSrc) lostPointSrc
        { version := 1, level := Spec.Level.L.indicator, mask := none, fit := false } [⟨4, List.replicate 18 65⟩] with
    | .error .dataOverflow => true
    | _ => false) = true ∧ Spec.fits 1 .L [(.byte, 18)] = false := ⟨by decide +kernel, by decide⟩

end Capstone

/-- **C03 (the other entry points)**: `get_matrix()`, `make_image()`, `print_ascii()` and `print_tty()` on an object
    that has not been compiled yet (sound blank cache, valid settings, valid data - the hypotheses of
    `C16_implicit_compile`) raise nothing but DataOverflowError - and that exactly when the cache-free `compile` of the
    current settings with `fit=True` overflows - except `make_image()`'s ValueError for a non-positive `box_size`
    (raised before any compile) and what `Model.step` leaves out: the tty check of `print_tty()` / `print_ascii(tty=True)`
    and the arguments of `make_image` (listed in the docstring of `C16_implicit_compile`) -/
theorem C03_entry_points (g : Model.Global) (s : Model.QRState) (l : Spec.Level)
    (hg : GInv g) (hv : s.version ≤ 40) (hm : ∀ m, s.mask = some m → m ≤ 7) (hl : s.level = l.indicator)
    (hsegs : ∀ x ∈ s.dataList, x.Valid) (hc : s.dataCache = none) (op : Model.Op)
    (hop : op = .getMatrix ∨ op = .makeImage ∨ op = .printAscii ∨ op = .printTty) :
    (∀ e, (Model.step (g, s) op).2 = .err e →
      (e = .dataOverflow ∧
        Model.compile { version := s.version, level := s.level, mask := s.mask, fit := true } s.dataList
          = .error .dataOverflow) ∨
      (e = .valueError ∧ op = .makeImage ∧ s.boxSize ≤ 0)) ∧
    (Model.compile { version := s.version, level := s.level, mask := s.mask, fit := true } s.dataList
        = .error .dataOverflow → ¬ (op = .makeImage ∧ s.boxSize ≤ 0) →
      (Model.step (g, s) op).2 = .err .dataOverflow) := by
  have h : Proofs.Implicit.Pre g s l := ⟨hg, hv, hm, hl, hsegs, hc⟩
  refine ⟨fun e he => Proofs.Implicit.entry_points h op hop e he, fun hov hnb => ?_⟩
  have := Proofs.Implicit.step_fresh h (Model.Op.reads_of hop) (readGuard_ok hnb)
  rw [hov] at this
  exact this.2

/-- the Python functions this property's model mirrors have, in /repo's current working tree, exactly the normalised
    ASTs the model was written and validated against (fingerprints regenerated by T1 on every run) -/
theorem C03_source_fingerprints : QR.Gen.fp_C03 = QR.Pinned.fp_C03 := by decide

end QR.Props
