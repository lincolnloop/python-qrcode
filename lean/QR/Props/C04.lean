import QR.Proofs.TypeInfo
import QR.Proofs.Pinned
import QR.Proofs.SourceTieC04
-- `2 ^ 15` in `C04_spec_sound` is Mathlib's `Monoid ℕ` power; without this import it would elaborate to core's `Nat.pow`,
-- an equal but different term.
import Mathlib.Algebra.Group.Nat.Defs
/-
C04 - format and version information are the correct BCH codewords in both copies, each bit at its ISO-assigned module.
Model side: setup_type_info / setup_type_number (loops with the code's `i < 6 / i < 8 / i < 9` arithmetic) and the
`while BCH_digit(d) - BCH_digit(G) >= 0` division loops over constants regenerated from the source.
Spec side: format/version words as "top bits = data, divisible by the generator" (+ mask 101010000010010), the ISO
coordinate lists (fmtPos1 written out, fmtPos2/verPos1/verPos2 by their formulas), the dark module.
Writer `C04_written` (with `C04_cells`, `C04_disjoint`), reader `C04_read_back`, the words `C04_format_code`, `C04_version_code`.
`C04_source_*`: bridges, capstones and the fingerprint obligation (the three kinds are explained at the head of Props/C02.lean).
-/
namespace QR.Props

/-- `util.BCH_type_info(d)` is the ISO format word for all 32 (level, mask) inputs -/
theorem C04_format_code : ∀ d, d < 32 → Model.bchTypeInfo d = Spec.formatWord d := C04_bch15

/-- `util.BCH_type_number(v)` is the ISO version word (in particular for versions 7..40) -/
theorem C04_version_code : ∀ v, v < 64 → Model.bchTypeNumber v = Spec.versionWord v := C04_bch18

/-- the Spec's words really are BCH(15,5) / BCH(18,6) codewords carrying their data in the top bits -/
theorem C04_spec_sound :
    (∀ d, d < 32 → Spec.gf2rem 0x537 10 5 (Spec.formatWord d ^^^ 0x5412) = 0 ∧ (Spec.formatWord d ^^^ 0x5412) >>> 10 = d ∧ Spec.formatWord d < 2 ^ 15) ∧
    (∀ v, v < 64 → Spec.gf2rem 0x1F25 12 6 (Spec.versionWord v) = 0 ∧ Spec.versionWord v >>> 12 = v) :=
  ⟨C04_spec_format_sound, C04_spec_version_sound⟩

/-- the integers used for the levels are the ISO two-bit indicators -/
theorem C04_levels :
    Gen.ERROR_CORRECT_L = Spec.Level.L.indicator ∧ Gen.ERROR_CORRECT_M = Spec.Level.M.indicator ∧
    Gen.ERROR_CORRECT_Q = Spec.Level.Q.indicator ∧ Gen.ERROR_CORRECT_H = Spec.Level.H.indicator := C04_level

/-- **C04 (writer)**: for all 40 versions, 4 levels, 8 masks, test/final: after setup_type_info (+ setup_type_number for
    v ≥ 7) every format / version / dark-module cell holds exactly the bit the ISO layout assigns to it (`Spec.infoCell`:
    bit i of the format word at fmtPos1[i] and fmtPos2[i], bit i of the version word at verPos1[i] and verPos2[i], dark
    module dark; all light in test mode), and every other cell is untouched -/
theorem C04_written (v level mask : Nat) (test : Bool) (m : Model.Mat)
    (hv1 : 1 ≤ v) (hv40 : v ≤ 40) (hl : level < 4) (hk : mask < 8) (hm : MatShape m (Spec.size v)) :
    let n := Spec.size v
    let m' := (if v ≥ 7 then Model.setupTypeNumber n v (Model.setupTypeInfo n level m test mask) test
               else Model.setupTypeInfo n level m test mask)
    MatShape m' n ∧ ∀ r c, r < n → c < n →
      m'.get r c = (match Spec.infoCell v level mask test r c with | some b => some b | none => m.get r c) :=
  QR.GeoB.typeInfo_get v level mask test m hv1 hv40 hl hk hm

/-- the cells written are exactly the format, version and dark-module cells of the ISO layout ... -/
theorem C04_cells (v level mask : Nat) (hv : 1 ≤ v) (test : Bool) (r c : Nat)
    (hr : r < Spec.size v) (hc : c < Spec.size v) :
    (Spec.infoCell v level mask test r c).isSome = true ↔
      (Spec.inFormat (Spec.size v) r c = true ∨ Spec.isDarkModule (Spec.size v) r c = true ∨
        Spec.inVersion v (Spec.size v) r c = true) :=
  QR.GeoB.infoCell_isSome_iff v level mask hv test r c hr hc

/-- ... and none of them is a finder / separator / timing / alignment cell (they are still `None` in the cached blank) -/
theorem C04_disjoint (v r c : Nat) (hv1 : 1 ≤ v) (hv40 : v ≤ 40)
    (h : Spec.inFormat (Spec.size v) r c = true ∨ Spec.inVersion v (Spec.size v) r c = true ∨
      Spec.isDarkModule (Spec.size v) r c = true) : Spec.blankCell v r c = none :=
  QR.GeoB.blankCell_none_of_info v r c hv1 hv40 h

/-- **C04 (reader)**: any symbol whose format/version cells hold those bits is read back by the strict Spec reader as
    exactly (level, mask), with both copies equal, and passes the version-information test -/
theorem C04_read_back (S : Spec.Sym) (v level mask : Nat) (l : Spec.Level)
    (hv1 : 1 ≤ v) (hv40 : v ≤ 40) (hl : level < 4) (hk : mask < 8)
    (hlv : Spec.Level.ofIndicator level = some l) (hn : S.n = Spec.size v)
    (hS : ∀ r c b, Spec.infoCell v level mask false r c = some b → S.get r c = b) :
    Spec.readFormat S = .ok (l, mask) ∧ Spec.versionInfoOK S v = true :=
  QR.GeoB.reader_of_infoCell S v level mask l hv1 hv40 hl hk hlv hn hS

/-- published examples (tests of the Spec): format word for M / mask 101, version words 7 and 40 -/
example : Spec.formatWord 0b00101 = 0b100000011001110 := by decide
example : Spec.versionWord 7 = 0x07C94 ∧ Spec.versionWord 40 = 0x28C69 := by decide

/-! ### Bridges (plugin `frag_a.py`): `BCH_digit`, `BCH_type_info`, `BCH_type_number`, `setup_type_info`, `setup_type_number`.
    The loop skeletons the statements speak of and the lemmas about the Model are in QR/Proofs/SourceTieC04.lean. -/
section SourceTieA
open QR.Model QR.Gen.Code QR.SourceTieA

theorem C04_source_consts_src : const_G15 = Gen.G15 ∧ const_G18 = Gen.G18 ∧ const_G15_MASK = Gen.G15_MASK :=
  QR.SourceTieA.consts_src

/-- fuel-free form: the Python `while` statement of `BCH_digit`, started in `(data, 0)`, terminates in a state whose
    `digit` is `Model.bchDigit data` -/
theorem C04_source_bchDigit_src_while (data : Nat) :
    ∃ s, While digitCond digitStep (bch_digit_init data) s ∧ bch_digit_result s.1 s.2 = bchDigit data := by
  have h := bchDigit_src data data Nat.lt_two_pow_self
  exact ⟨_, While.of_fuel h.2, h.1.symm⟩

/-- **BCH_type_info**: `Model.bchTypeInfo data` is the translated result expression `((data << 10) | d) ^ G15_MASK`
    applied to the final state of the translated loop
    `d = data << 10; while BCH_digit(d) - BCH_digit(G15) >= 0: d ^= G15 << (BCH_digit(d) - BCH_digit(G15))`
    (run with the Model's fuel), and that loop has exited. -/
theorem C04_source_bchTypeInfo_src (data : Nat) :
    let d0 := bch_type_info_init bchDigit data
    let d := whileFuel (bch_type_info_cond bchDigit data) (bch_type_info_step bchDigit data) (bchDigit d0 + 1) d0
    bchTypeInfo data = bch_type_info_result bchDigit data d ∧ bch_type_info_cond bchDigit data d = false := by
  have h := bchRem_src Gen.G15 (by decide) (infoCond_eq data) (infoStep_eq data) (data <<< 10)
  exact ⟨by unfold bchTypeInfo bch_type_info_result; rw [← h.1, consts_src.2.2]; rfl, h.2⟩

/-- fuel-free forms: the Python `while` statements terminate, and the returned expression is the Model's value -/
theorem C04_source_bchTypeInfo_src_while (data : Nat) :
    ∃ d, While (bch_type_info_cond bchDigit data) (bch_type_info_step bchDigit data) (bch_type_info_init bchDigit data) d ∧
      bch_type_info_result bchDigit data d = bchTypeInfo data := by
  have h := C04_source_bchTypeInfo_src data
  exact ⟨_, While.of_fuel h.2, h.1.symm⟩

/-- **BCH_type_number**: same for `d = data << 12`, `G18`, result `(data << 12) | d`. -/
theorem C04_source_bchTypeNumber_src (data : Nat) :
    let d0 := bch_type_number_init bchDigit data
    let d := whileFuel (bch_type_number_cond bchDigit data) (bch_type_number_step bchDigit data) (bchDigit d0 + 1) d0
    bchTypeNumber data = bch_type_number_result bchDigit data d ∧ bch_type_number_cond bchDigit data d = false := by
  have h := bchRem_src Gen.G18 (by decide) (numberCond_eq data) (numberStep_eq data) (data <<< 12)
  exact ⟨by unfold bchTypeNumber bch_type_number_result; rw [← h.1]; rfl, h.2⟩

theorem C04_source_bchTypeNumber_src_while (data : Nat) :
    ∃ d, While (bch_type_number_cond bchDigit data) (bch_type_number_step bchDigit data)
        (bch_type_number_init bchDigit data) d ∧
      bch_type_number_result bchDigit data d = bchTypeNumber data := by
  have h := C04_source_bchTypeNumber_src data
  exact ⟨_, While.of_fuel h.2, h.1.symm⟩

/-- the data word `(self.error_correction << 3) | mask_pattern` -/
theorem C04_source_type_info_data_src (level mask : Nat) : type_info_data level mask = (level <<< 3) ||| mask := rfl

theorem C04_source_type_info_calls : type_info_bits_call = "util.BCH_type_info(data)" ∧
    type_number_bits_call = "util.BCH_type_number(self.version)" := ⟨rfl, rfl⟩

theorem C04_source_type_info_ranges : type_info_v_range = (0, 15) ∧ type_info_h_range = (0, 15) ∧
    type_number_a_range = (0, 18) ∧ type_number_b_range = (0, 18) := ⟨rfl, rfl, rfl, rfl⟩

/-- vertical strip: for every loop index the translated (row, col, value) is the Model's -/
theorem C04_source_type_info_v_src (n : Nat) (hn : 15 ≤ n) (test : Bool) (bits i : Nat) :
    type_info_v n test bits i =
      (((((if i < 6 then i else if i < 8 then i + 1 else n - 15 + i : Nat) : Int)), 8), (!test && bits.testBit i)) := by
  unfold type_info_v
  simp only [decide_shiftRight_and_one]
  by_cases h6 : i < 6
  · simp [h6]
  · by_cases h8 : i < 8
    · simp [h6, h8]
    · simp only [h6, h8, decide_false, Bool.false_eq_true, if_false, Prod.mk.injEq, and_true]
      omega

/-- horizontal strip -/
theorem C04_source_type_info_h_src (n : Nat) (i : Nat) (hi : i < 15) (hn : i < 8 → i + 1 ≤ n) (test : Bool) (bits : Nat) :
    type_info_h n test bits i =
      ((8, (((if i < 8 then n - i - 1 else if i < 9 then 15 - i - 1 + 1 else 15 - i - 1 : Nat) : Int))),
        (!test && bits.testBit i)) := by
  unfold type_info_h
  simp only [decide_shiftRight_and_one]
  by_cases h8 : i < 8
  · have := hn h8
    simp only [h8, decide_true, if_true, Prod.mk.injEq, and_true, true_and]
    omega
  · by_cases h9 : i < 9
    · simp only [h8, h9, decide_true, decide_false, Bool.false_eq_true, if_false, if_true, Prod.mk.injEq, and_true, true_and]
      omega
    · simp only [h8, h9, decide_false, Bool.false_eq_true, if_false, Prod.mk.injEq, and_true, true_and]
      omega

theorem C04_source_type_info_fixed_src (n : Nat) (hn : 8 ≤ n) (test : Bool) :
    type_info_fixed n test = ((((n - 8 : Nat) : Int), 8), !test) := by
  unfold type_info_fixed
  simp only [Prod.mk.injEq, and_true]
  omega

/-- all cells written by `setup_type_info` have non-negative coordinates inside the matrix (so Python's negative-index
    wrap-around never applies and `Int.toNat` in `writeCell` is exact) -/
theorem C04_source_type_info_cells_inside (n : Nat) (hn : 15 ≤ n) (test : Bool) (bits i : Nat) (hi : i < 15) :
    let v := type_info_v n test bits i
    let h := type_info_h n test bits i
    let f := type_info_fixed n test
    (0 ≤ v.1.1 ∧ v.1.1 < n ∧ 0 ≤ v.1.2 ∧ v.1.2 < n) ∧ (0 ≤ h.1.1 ∧ h.1.1 < n ∧ 0 ≤ h.1.2 ∧ h.1.2 < n) ∧
      (0 ≤ f.1.1 ∧ f.1.1 < n ∧ 0 ≤ f.1.2 ∧ f.1.2 < n) := by
  rw [C04_source_type_info_v_src n hn, C04_source_type_info_h_src n i hi (by omega), C04_source_type_info_fixed_src n (by omega)]
  simp only
  split <;> split <;> (try split) <;> omega

/-- **setup_type_info**: the Model function is the translated data word, the two translated write loops over the
    translated ranges, then the translated fixed module (`self.modules[self.modules_count - 8][8] = not test`).
    `15 ≤ n` is guaranteed by Python (`modules_count = 4 * version + 17 ≥ 21`). -/
theorem C04_source_setupTypeInfo_src (n level : Nat) (hn : 15 ≤ n) (m : Mat) (test : Bool) (mask : Nat) :
    setupTypeInfo n level m test mask =
      let bits := bchTypeInfo (type_info_data level mask)
      writeCell
        (writeLoop type_info_h_range (type_info_h n test bits)
          (writeLoop type_info_v_range (type_info_v n test bits) m))
        (type_info_fixed n test) := by
  unfold setupTypeInfo
  simp only [C04_source_type_info_data_src, C04_source_type_info_ranges.1, C04_source_type_info_ranges.2.1]
  rw [C04_source_type_info_fixed_src n (by omega)]
  refine congrArg (fun M : Mat => M.set (n - 8) 8 (some !test)) ?_
  apply writeLoop_congr
  · intro m i hi
    rw [C04_source_type_info_h_src n i hi (by omega)]
    unfold writeCell
    simp only [Int.toNat_natCast]
    split <;> (try split) <;> rfl
  · apply writeLoop_congr
    · intro m i hi
      rw [C04_source_type_info_v_src n hn]
      unfold writeCell
      simp only [Int.toNat_natCast]
      split <;> (try split) <;> rfl
    · rfl

theorem C04_source_type_number_a_src (n : Nat) (hn : 11 ≤ n) (test : Bool) (bits i : Nat) :
    type_number_a n test bits i = ((((i / 3 : Nat) : Int), ((i % 3 + n - 8 - 3 : Nat) : Int)), (!test && bits.testBit i)) := by
  unfold type_number_a
  simp only [decide_shiftRight_and_one, Prod.mk.injEq, and_true]
  omega

theorem C04_source_type_number_b_src (n : Nat) (hn : 11 ≤ n) (test : Bool) (bits i : Nat) :
    type_number_b n test bits i = ((((i % 3 + n - 8 - 3 : Nat) : Int), ((i / 3 : Nat) : Int)), (!test && bits.testBit i)) := by
  unfold type_number_b
  simp only [decide_shiftRight_and_one, Prod.mk.injEq, and_true]
  omega

theorem C04_source_type_number_cells_inside (n : Nat) (hn : 11 ≤ n) (test : Bool) (bits i : Nat) (hi : i < 18) :
    let a := type_number_a n test bits i
    let b := type_number_b n test bits i
    (0 ≤ a.1.1 ∧ a.1.1 < n ∧ 0 ≤ a.1.2 ∧ a.1.2 < n) ∧ (0 ≤ b.1.1 ∧ b.1.1 < n ∧ 0 ≤ b.1.2 ∧ b.1.2 < n) := by
  rw [C04_source_type_number_a_src n hn, C04_source_type_number_b_src n hn]
  simp only
  omega

/-- **setup_type_number**: the Model function is the two translated write loops over the translated ranges, with
    `bits = BCH_type_number(version)`.  `11 ≤ n` is guaranteed by Python (`modules_count ≥ 21`). -/
theorem C04_source_setupTypeNumber_src (n version : Nat) (hn : 11 ≤ n) (m : Mat) (test : Bool) :
    setupTypeNumber n version m test =
      let bits := bchTypeNumber version
      writeLoop type_number_b_range (type_number_b n test bits)
        (writeLoop type_number_a_range (type_number_a n test bits) m) := by
  unfold setupTypeNumber
  simp only [C04_source_type_info_ranges.2.2.1, C04_source_type_info_ranges.2.2.2]
  apply writeLoop_congr
  · intro m i _
    rw [C04_source_type_number_b_src n hn]
    unfold writeCell
    simp only [Int.toNat_natCast]
  · apply writeLoop_congr
    · intro m i _
      rw [C04_source_type_number_a_src n hn]
      unfold writeCell
      simp only [Int.toNat_natCast]
    · rfl

end SourceTieA

/-! ### Capstones over the `…Src` functions at the end of QR/Proofs/SourceTieC04.lean (the right-hand sides of the bridges above). -/
section Capstone
open QR.Model QR.Gen.Code QR.SourceTieA QR.CapstoneE2

theorem C04_source_bchTypeInfoSrc_eq (data : Nat) : bchTypeInfoSrc bchDigit data = bchTypeInfo data :=
  (C04_source_bchTypeInfo_src data).1.symm

theorem C04_source_bchTypeNumberSrc_eq (data : Nat) : bchTypeNumberSrc bchDigit data = bchTypeNumber data :=
  (C04_source_bchTypeNumber_src data).1.symm

/-- **capstone, util.py:BCH_type_info** (callee `util.py:BCH_digit` = the parameter, instantiated by `Model.bchDigit`, which
    `C04_source_bchDigit_src_while` ties to the translated `while` loop of `BCH_digit`): for all 32 (level, mask) data words
    the translated initialisation / loop / result expression returns the ISO format word `Spec.formatWord` (BCH(15,5)
    codeword xor 101010000010010, by `C04_spec_sound`); from `C04_source_bchTypeInfo_src` and `C04_format_code`.
    Second part, fuel-free: the Python `while` statement terminates, and EVERY terminating run returns the ISO word. -/
theorem C04_source_capstone_format_code (d : Nat) (hd : d < 32) :
    bchTypeInfoSrc bchDigit d = Spec.formatWord d ∧
    (∃ s, While (bch_type_info_cond bchDigit d) (bch_type_info_step bchDigit d) (bch_type_info_init bchDigit d) s) ∧
    ∀ s, While (bch_type_info_cond bchDigit d) (bch_type_info_step bchDigit d) (bch_type_info_init bchDigit d) s →
      bch_type_info_result bchDigit d s = Spec.formatWord d := by
  obtain ⟨s0, hs0, hr0⟩ := C04_source_bchTypeInfo_src_while d
  refine ⟨(C04_source_bchTypeInfoSrc_eq d).trans (C04_format_code d hd), ⟨s0, hs0⟩, fun s hs => ?_⟩
  rw [While.det hs hs0, hr0]
  exact C04_format_code d hd

/-- **capstone, util.py:BCH_type_number** (callee `BCH_digit` = parameter, as above): for every 6-bit version number (in
    particular versions 7..40) the translated loop returns the ISO version word `Spec.versionWord` (BCH(18,6) codeword, by
    `C04_spec_sound`); from `C04_source_bchTypeNumber_src` and `C04_version_code`. Fuel-free second part as above. -/
theorem C04_source_capstone_version_code (v : Nat) (hv : v < 64) :
    bchTypeNumberSrc bchDigit v = Spec.versionWord v ∧
    (∃ s, While (bch_type_number_cond bchDigit v) (bch_type_number_step bchDigit v) (bch_type_number_init bchDigit v) s) ∧
    ∀ s, While (bch_type_number_cond bchDigit v) (bch_type_number_step bchDigit v) (bch_type_number_init bchDigit v) s →
      bch_type_number_result bchDigit v s = Spec.versionWord v := by
  obtain ⟨s0, hs0, hr0⟩ := C04_source_bchTypeNumber_src_while v
  refine ⟨(C04_source_bchTypeNumberSrc_eq v).trans (C04_version_code v hv), ⟨s0, hs0⟩, fun s hs => ?_⟩
  rw [While.det hs hs0, hr0]
  exact C04_version_code v hv

theorem C04_source_setupTypeInfoSrc_eq (n level : Nat) (hn : 15 ≤ n) (m : Mat) (test : Bool) (mask : Nat) :
    setupTypeInfoSrc (bchTypeInfoSrc bchDigit) n level m test mask = setupTypeInfo n level m test mask := by
  rw [C04_source_setupTypeInfo_src n level hn m test mask]
  unfold setupTypeInfoSrc
  rw [C04_source_bchTypeInfoSrc_eq]

theorem C04_source_setupTypeNumberSrc_eq (n version : Nat) (hn : 11 ≤ n) (m : Mat) (test : Bool) :
    setupTypeNumberSrc (bchTypeNumberSrc bchDigit) n version m test = setupTypeNumber n version m test := by
  rw [C04_source_setupTypeNumber_src n version hn m test]
  unfold setupTypeNumberSrc
  rw [C04_source_bchTypeNumberSrc_eq]

/-- **capstone, main.py:QRCode.setup_type_info + setup_type_number over util.py:BCH_type_info / BCH_type_number** (the whole
    chain source-assembled; only `BCH_digit` is a parameter, instantiated by `Model.bchDigit`; the version test is the
    translated `self.version >= 7` of `makeImpl`): for all 40 versions, 4 levels, 8 masks, test/final and every matrix of
    the right shape, after the translated write loops every format / version / dark-module cell holds exactly the bit the ISO
    layout assigns to it (`Spec.infoCell`) and every other cell is untouched; from `C04_source_setupTypeInfo_src`,
    `C04_source_setupTypeNumber_src`, `C04_source_bchTypeInfo_src`, `C04_source_bchTypeNumber_src` and `C04_written`. -/
theorem C04_source_capstone_written (v level mask : Nat) (test : Bool) (m : Mat)
    (hv1 : 1 ≤ v) (hv40 : v ≤ 40) (hl : level < 4) (hk : mask < 8) (hm : MatShape m (Spec.size v)) :
    let n := Spec.size v
    let mi := setupTypeInfoSrc (bchTypeInfoSrc bchDigit) n level m test mask
    let m' := (if makeImpl_type_number_test v then setupTypeNumberSrc (bchTypeNumberSrc bchDigit) n v mi test else mi)
    MatShape m' n ∧ ∀ r c, r < n → c < n →
      m'.get r c = (match Spec.infoCell v level mask test r c with | some b => some b | none => m.get r c) := by
  intro n mi m'
  have hn : 15 ≤ Spec.size v := by unfold Spec.size; omega
  have e : m' = (if v ≥ 7 then Model.setupTypeNumber n v (Model.setupTypeInfo n level m test mask) test
               else Model.setupTypeInfo n level m test mask) := by
    simp only [m', mi, n, C04_source_setupTypeInfoSrc_eq _ _ hn, C04_source_setupTypeNumberSrc_eq _ _ (Nat.le_trans (by omega) hn),
      makeImpl_type_number_test, decide_eq_true_eq]
  rw [e]
  exact C04_written v level mask test m hv1 hv40 hl hk hm

/-- **capstone (reader), same chain as `C04_source_capstone_written`**: any symbol `S` that shows the matrix written by the
    translated `setup_type_info` (+ `setup_type_number` for v ≥ 7) in final mode is read back by the strict Spec reader as
    exactly (level, mask), both format copies equal, and passes the version-information test; from
    `C04_source_capstone_written` and `C04_read_back`. -/
theorem C04_source_capstone_read_back (S : Spec.Sym) (v level mask : Nat) (l : Spec.Level) (m : Mat)
    (hv1 : 1 ≤ v) (hv40 : v ≤ 40) (hl : level < 4) (hk : mask < 8)
    (hlv : Spec.Level.ofIndicator level = some l) (hm : MatShape m (Spec.size v)) (hn : S.n = Spec.size v)
    (hS : ∀ r c, r < Spec.size v → c < Spec.size v →
      S.get r c = (((if makeImpl_type_number_test v
        then setupTypeNumberSrc (bchTypeNumberSrc bchDigit) (Spec.size v) v
          (setupTypeInfoSrc (bchTypeInfoSrc bchDigit) (Spec.size v) level m false mask) false
        else setupTypeInfoSrc (bchTypeInfoSrc bchDigit) (Spec.size v) level m false mask).get r c).getD false)) :
    Spec.readFormat S = .ok (l, mask) ∧ Spec.versionInfoOK S v = true := by
  apply C04_read_back S v level mask l hv1 hv40 hl hk hlv hn
  intro r c b hb
  obtain ⟨hr, hc⟩ := QR.GeoB.infoCell_inBounds v level mask hv1 false r c b hb
  have h := (C04_source_capstone_written v level mask false m hv1 hv40 hl hk hm).2 r c hr hc
  rw [hS r c hr hc, h, hb]
  rfl

/-- the capstones at a concrete input: M / mask 101 and version 7 (the published ISO examples), evaluated on the translated loops -/
example : bchTypeInfoSrc bchDigit 0b00101 = 0b100000011001110 ∧ bchTypeNumberSrc bchDigit 7 = 0x07C94 := by decide

end Capstone

/-- the Python functions this property's model mirrors have, in /repo's current working tree, exactly the normalised
    ASTs the model was written and validated against (fingerprints regenerated by T1 on every run) -/
theorem C04_source_fingerprints : QR.Gen.fp_C04 = QR.Pinned.fp_C04 := by decide

end QR.Props
