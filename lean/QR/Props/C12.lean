import QR.Proofs.SourceTieImage
import QR.Proofs.Raster
import QR.Proofs.SourceTieC12
import QR.Proofs.Pinned
/-
C12 - raster geometry (image/base.py, pure.py, pil.py).  Both raster back ends produce a square of
`(modules + 2*border) * box_size` pixels in which pixel (x, y) has the fill colour iff module
`(y div box_size - border, x div box_size - border)` of the symbol is dark; every pixel of the quiet zone has the
background colour (`Spec.rasterDark` = `Spec.framed` read at `(y / box, x / box)`).
Proved for every n x n matrix, every border and every box size >= 1 (Python rejects box_size <= 0): `C12_pure`, `C12_pil`, and
`C12_agree`; the pure-PNG raster is `get_matrix()` scaled by the box size (`pypngRows_eq_scale`, QR/Proofs/Raster.lean), so it rests
on C16; the Pillow canvas is a fold of closed boxes (`pilRaster_good`).
`C12_source_*`: bridges, capstones and the fingerprint obligation (the three kinds are explained at the head of Props/C02.lean).
-/
namespace QR.Props
open QR.Model

/-- `pixel_size` is `(n + 2*border) * box`, the PNG writer / `Image.new` get exactly that many rows of that many
pixels: the pure-PNG row iterator yields `pixel_size` rows of `pixel_size` values, the Pillow canvas keeps
`pixel_size` rows of `pixel_size` pixels after all rectangles are drawn. -/
theorem C12_size (M : Mods) (n border box : Nat) (hlen : M.length = n) (hrow : ∀ row ∈ M, row.length = n)
    (hb : 1 ≤ box) :
    pixelSize n border box = (n + 2 * border) * box ∧
    ((pypngRows M n border box).length = pixelSize n border box ∧
      ∀ row ∈ pypngRows M n border box, row.length = pixelSize n border box) ∧
    ((pilRaster M n border box).size = pixelSize n border box ∧
      ∀ row ∈ pilRaster M n border box, row.size = pixelSize n border box) := by
  have h3 := (Proofs.Raster.pilRaster_good M n border box).spec
  exact ⟨by rw [pixelSize, Nat.mul_comm border 2],
    ⟨Proofs.Raster.pypngRows_length M n border box hlen,
      fun row h => (Proofs.Raster.pypngRows_mem M n border box hlen hrow row h).1⟩,
    ⟨h3.1, h3.2.1⟩⟩

/-- `pixel_box(row, col)` is the closed box of exactly the pixels whose module coordinates are
`(row + border, col + border)` -/
theorem C12_pixel_box (border box row col x y : Nat) (hb : 1 ≤ box) :
    let ((x0, y0), (x1, y1)) := pixelBox border box row col
    (x0 ≤ x ∧ x ≤ x1 ∧ y0 ≤ y ∧ y ≤ y1) ↔ (x / box = col + border ∧ y / box = row + border) :=
  decide_eq_true_iff.symm.trans (Proofs.Raster.inBox_pixelBox hb)

/-- pure-PNG back end (`PyPNGImage.rows_iter`, 1 = white, 0 = black): `pixel_size` rows of `pixel_size` bits,
and pixel (x, y) is black iff the framed symbol is dark at module `(y / box, x / box)` -/
theorem C12_pure (M : Mods) (n border box : Nat) (hlen : M.length = n) (hrow : ∀ row ∈ M, row.length = n)
    (hb : 1 ≤ box) :
    (pypngRows M n border box).length = pixelSize n border box ∧
    (∀ row ∈ pypngRows M n border box, row.length = pixelSize n border box) ∧
    (∀ row ∈ pypngRows M n border box, ∀ v ∈ row, v = 0 ∨ v = 1) ∧
    ∀ x y, x < pixelSize n border box → y < pixelSize n border box →
      (((pypngRows M n border box).getD y []).getD x 1 = 0 ↔ Spec.rasterDark M n border box x y = true) :=
  ⟨Proofs.Raster.pypngRows_length M n border box hlen,
    fun row h => (Proofs.Raster.pypngRows_mem M n border box hlen hrow row h).1,
    fun row h => (Proofs.Raster.pypngRows_mem M n border box hlen hrow row h).2,
    fun x y _ _ => Proofs.Raster.pypngRows_pixel M n border box hlen hrow hb x y⟩

/-- Pillow back end (`PilImage`: background canvas + one `ImageDraw.rectangle(pixel_box(r, c))` per dark module,
under assumption A-PIL that `rectangle` fills exactly the closed box): pixel (x, y) has the fill colour iff the
framed symbol is dark at module `(y / box, x / box)` -/
theorem C12_pil (M : Mods) (n border box : Nat) (hlen : M.length = n) (hrow : ∀ row ∈ M, row.length = n)
    (hb : 1 ≤ box) :
    (pilRaster M n border box).size = pixelSize n border box ∧
    (∀ row ∈ pilRaster M n border box, row.size = pixelSize n border box) ∧
    ∀ x y, x < pixelSize n border box → y < pixelSize n border box →
      ((pilRaster M n border box).getD y #[]).getD x false = Spec.rasterDark M n border box x y :=
  have h := (Proofs.Raster.pilRaster_good M n border box).spec
  ⟨h.1, h.2.1, fun x y hx hy => (h.2.2 x y hx hy).trans (Proofs.Raster.pilPattern_eq M n border box hb x y)⟩

/-- the two back ends agree pixel by pixel -/
theorem C12_agree (M : Mods) (n border box : Nat) (hlen : M.length = n) (hrow : ∀ row ∈ M, row.length = n)
    (hb : 1 ≤ box) (x y : Nat) (hx : x < pixelSize n border box) (hy : y < pixelSize n border box) :
    ((pypngRows M n border box).getD y []).getD x 1 = 0 ↔
      ((pilRaster M n border box).getD y #[]).getD x false = true := by
  rw [(C12_pure M n border box hlen hrow hb).2.2.2 x y hx hy, (C12_pil M n border box hlen hrow hb).2.2 x y hx hy]

/-- the mode `PilImage.new_image` selects: bilevel for black on white, RGBA for a transparent background -/
theorem C12_mode : pilMode (some "black") (some "white") = "1" ∧
    pilMode (some "red") (some "transparent") = "RGBA" ∧ pilMode none (some "white") = "RGB" :=
  ⟨rfl, rfl, rfl⟩

/-- non-vacuity: a 2 x 2 symbol, border 1, box 2 satisfies the hypotheses, gives an 8 x 8 image with both colours,
and both back ends produce the expected pixels -/
example : let M : Mods := [[true, false], [false, true]]
    M.length = 2 ∧ (∀ row ∈ M, row.length = 2) ∧ pixelSize 2 1 2 = 8 ∧
    pixelBox 1 2 0 1 = ((4, 2), (5, 3)) ∧
    Spec.rasterDark M 2 1 2 2 3 = true ∧ Spec.rasterDark M 2 1 2 4 3 = false ∧ Spec.rasterDark M 2 1 2 1 3 = false ∧
    pypngRows M 2 1 2 =
      [[1,1,1,1,1,1,1,1], [1,1,1,1,1,1,1,1],
       [1,1,0,0,1,1,1,1], [1,1,0,0,1,1,1,1],
       [1,1,1,1,0,0,1,1], [1,1,1,1,0,0,1,1],
       [1,1,1,1,1,1,1,1], [1,1,1,1,1,1,1,1]] ∧
    (pilRaster M 2 1 2).toList.map (fun r => r.toList.map fun b => if b then 0 else 1) = pypngRows M 2 1 2 := by
  decide

/-! ### Bridge (`tools/translate.py` itself: a single expression) for `BaseImage.pixel_box` -/

/-- `BaseImage.pixel_box` as it stands in the source is the model's `pixelBox` -/
theorem C12_source_pixel_box (border box row col : Nat) :
    Gen.Code.pixel_box border box row col = pixelBox border box row col := rfl

/-! ### Bridges (plugin `frag_b.py`): `PyPNGImage.rows_iter` / `border_rows_iter` / `new_image`, `BaseImage.__init__` -/
section SourceTieB
open QR.Gen.Code

/-- `border_rows_iter()`: `border * box_size` rows of `box_size * (width + border * 2)` ones -/
theorem C12_source_pypngBorderRows_src (width border boxSize : Nat) :
    pypng_border_rows width border boxSize =
      List.replicate (border * boxSize) (List.replicate (boxSize * (width + border * 2)) 1) := by
  unfold pypng_border_rows
  rw [flatMap_range_const]

/-- `rows_iter()`: for every matrix (any shape), width, border and box size -/
theorem C12_source_pypngRows_src (M : Mods) (width border boxSize : Nat) :
    pypngRows M width border boxSize = pypng_rows M width border boxSize := by
  unfold pypngRows pypng_rows
  simp only [C12_source_pypngBorderRows_src, flatMap_range_const]
  have h : ∀ p : Bool, (if (!p) = true then 1 else 0 : Nat) = if p = true then 0 else 1 := by
    intro p; cases p <;> rfl
  simp only [h]

/-- `new_image`: a square greyscale image of `pixel_size`, one bit per pixel; `save` feeds it `rows_iter()` -/
theorem C12_source_pypngWriter_src :
    pypng_writer = "qrcode.compat.png.PngWriter" ∧ (∀ p, pypng_writer_args p = (p, p, true, 1)) ∧
    pypng_save_call = "self._img.write(stream, self.rows_iter())" := ⟨rfl, fun _ => rfl, rfl⟩

/-- `BaseImage.__init__`: `pixel_size` -/
theorem C12_source_pixelSize_src (width border boxSize : Nat) : pixelSize width border boxSize = pixel_size border width boxSize := rfl

/-- every row of the PNG has `pixel_size` entries when the matrix is `width` wide, and there are `pixel_size` rows when it
    is `width` high: the image handed to `PngWriter(pixel_size, pixel_size, ...)` has the declared size -/
theorem C12_source_pypngRows_dims (M : Mods) (width border boxSize : Nat) (hlen : M.length = width)
    (hrow : ∀ row ∈ M, row.length = width) :
    (pypng_rows M width border boxSize).length = (pypng_writer_args (pixel_size border width boxSize)).2.1 ∧
    ∀ row ∈ pypng_rows M width border boxSize, row.length = (pypng_writer_args (pixel_size border width boxSize)).1 := by
  rw [← C12_source_pypngRows_src]
  exact ⟨Proofs.Raster.pypngRows_length M width border boxSize hlen,
    fun row h => (Proofs.Raster.pypngRows_mem M width border boxSize hlen hrow row h).1⟩

end SourceTieB

/-! ### Bridges (plugin `frag_c.py`): `PilImage.new_image`; `pilMode_src` is proved in QR/Proofs/SourceTieC12.lean. -/
section SourceTieT
open QR.Gen.Code QR.SourceTieT

/-- **mode** `Model.pilMode` applied to the lower-cased colours (keyword argument or default) is the first argument of
    `Image.new` in the source; `lower` is Python's `str.lower`, arbitrary here -/
theorem C12_source_pilMode_src {α : Type} (lower : String → String) (kwBack kwFill : Option (pil_Val α)) :
    pil_new_image_mode lower kwBack kwFill =
      pilMode (pilStrOf ((kwFill.getD (.str "black")).lowered lower)) (pilStrOf ((kwBack.getD (.str "white")).lowered lower)) :=
  QR.SourceTieT.pilMode_src lower kwBack kwFill

/-- the colours handed on (no Model counterpart; characterisation by mode): in mode "1" fill 0 on background 255, in mode
    "RGBA" the (lower-cased) fill on background `None`, in mode "RGB" the (lower-cased) colours themselves; and the mode
    is one of the three -/
theorem C12_source_pilNewImageColours_src {α : Type} (lower : String → String) (kwBack kwFill : Option (pil_Val α)) :
    let fill := (kwFill.getD (.str "black")).lowered lower
    let back := (kwBack.getD (.str "white")).lowered lower
    let mode := pil_new_image_mode lower kwBack kwFill
    (mode = "1" ∧ pil_new_image_fill lower kwBack kwFill = .int 0 ∧ pil_new_image_back lower kwBack kwFill = .int 255) ∨
    (mode = "RGBA" ∧ pil_new_image_fill lower kwBack kwFill = fill ∧ pil_new_image_back lower kwBack kwFill = .none) ∨
    (mode = "RGB" ∧ pil_new_image_fill lower kwBack kwFill = fill ∧ pil_new_image_back lower kwBack kwFill = back) := by
  simp only [pil_new_image_mode, pil_new_image_fill, pil_new_image_back]
  generalize (kwFill.getD (.str "black")).lowered lower = f
  generalize (kwBack.getD (.str "white")).lowered lower = b
  cases h1 : pil_Val.eqStr f "black" <;> cases h2 : pil_Val.eqStr b "white" <;> cases h3 : pil_Val.eqStr b "transparent" <;>
    simp

end SourceTieT

/-! ### Bridges (plugin `frag_d4.py`, `Gen.Code.rd_*`): the tail of `QRCode.make_image`, `PilImage.drawrect`, `PilImage.save`,
    `BaseImage.check_kind` / `get_image`, statement by statement.  Those that other proofs use as well, and the closed forms
    (`makeImageDraw`, `pilCalls`, `checkKind`), are in QR/Proofs/SourceTieImage.lean. -/
section SourceTieD4
open QR.Gen.Code QR.SourceTieD4

/-- `QRCode.make_image`: the factory call `image_factory(self.border, self.modules_count, self.box_size,
    qrcode_modules=self.modules, **kwargs)` - argument order and keyword as the Model's renderers assume -/
theorem C12_source_makeImage_factory_literals :
    rd_make_image_factory_args = ["self.border", "self.modules_count", "self.box_size"] ∧
    rd_make_image_factory_kwargs = [("qrcode_modules", "self.modules"), ("**", "kwargs")] :=
  ⟨rfl, rfl⟩

/-- the tail of `QRCode.make_image` (`if im.needs_drawrect: for r ...: for c ...`, `if im.needs_processing: im.process()`) in
    closed form: the row-major double loop that `Model.pilRaster` and `Model.svgDoc` are written as -/
theorem C12_source_makeImageDraw_src {S : Type} (nd nc np : Bool) (n : Nat) (M : Mods) (ctx dr : Nat → Nat → S → S)
    (process : S → S) (im : S) :
    rd_make_image_draw nd nc np n M ctx dr process im =
      let cell : Nat → Nat → S → S := fun r c im =>
        if nc then ctx r c im else if (M.getD r []).getD c false then dr r c im else im
      let im := if nd then (List.range n).foldl (fun im r => (List.range n).foldl (fun im c => cell r c im) im) im else im
      if np then process im else im :=
  QR.SourceTieD4.makeImageDraw_src nd nc np n M ctx dr process im

/-- `make_image` with `PyPNGImage` (`needs_drawrect = False`, read from the class body): no per-module call at all - the image is
    entirely `Model.pypngRows` -/
theorem C12_source_pypng_untouched_src {S : Type} (n : Nat) (M : Mods) (ctx dr : Nat → Nat → S → S) (process : S → S) (im : S) :
    makeImageDraw "PyPNGImage" n M ctx dr process im = im := by
  unfold makeImageDraw
  rw [flags_pypng, makeImageDraw_src]
  rfl

/-- `PilImage.drawrect(row, col)` = one call `self._idr.rectangle(Model.pixelBox row col, fill=self.fill_color)` -/
theorem C12_source_pilDrawrect_src {Fill : Type} (border boxSize : Nat) (fill : Fill) (row col : Nat) (idr : List (rd_Box × Fill)) :
    rd_pil_drawrect border boxSize fill row col idr = idr ++ [(pixelBox border boxSize row col, fill)] := rfl

/-- the callee and keyword of that call -/
theorem C12_source_pilDrawrect_literals :
    rd_pil_drawrect_callee = "self._idr.rectangle" ∧ rd_pil_drawrect_keywords = ["fill"] :=
  ⟨rfl, rfl⟩

/-- `make_image` + `PilImage.drawrect` (class flags of `PilImage` read from the class bodies): the sequence of
    `rectangle(box, fill)` calls is `Model.pixelBox` of the dark cells in row-major order, fill = `self.fill_color` -/
theorem C12_source_pilCalls_src {Fill : Type} (fill : Fill) (M : Mods) (width border boxSize : Nat)
    (ctx : Nat → Nat → List (rd_Box × Fill) → List (rd_Box × Fill)) (process : List (rd_Box × Fill) → List (rd_Box × Fill))
    (idr : List (rd_Box × Fill)) :
    makeImageDraw "PilImage" width M ctx (rd_pil_drawrect border boxSize fill) process idr
      = idr ++ pilCalls fill M width border boxSize := by
  unfold makeImageDraw
  rw [flags_pil, makeImageDraw_src, pilCalls,
    ← Proofs.DarkCells.map_darkCells M width (fun rc => (pixelBox border boxSize rc.1 rc.2, fill)),
    ← foldl_append_singleton, Proofs.DarkCells.foldl_darkCells]
  rfl

/-- `Model.pilRaster` is the background canvas with exactly these boxes drawn in this order -/
theorem C12_source_pilRaster_calls {Fill : Type} (fill : Fill) (M : Mods) (width border boxSize : Nat) :
    pilRaster M width border boxSize
      = ((pilCalls fill M width border boxSize).map (·.1)).foldl drawBox
          (Array.replicate (pixelSize width border boxSize) (Array.replicate (pixelSize width border boxSize) false)) := by
  rw [pilCalls, ← Proofs.DarkCells.map_darkCells M width (fun rc => (pixelBox border boxSize rc.1 rc.2, fill)),
    List.map_map, List.foldl_map, Proofs.DarkCells.foldl_darkCells]
  rfl

/-- end to end: the translated `make_image` tail with the translated `PilImage.drawrect`, painted on a `pixel_size` square
    canvas (size as translated from `BaseImage.__init__`), is `Model.pilRaster` -/
theorem C12_source_pilRaster_src (M : Mods) (width border boxSize : Nat)
    (ctx : Nat → Nat → List (rd_Box × Unit) → List (rd_Box × Unit)) (process : List (rd_Box × Unit) → List (rd_Box × Unit)) :
    pilRaster M width border boxSize
      = ((makeImageDraw "PilImage" width M ctx (rd_pil_drawrect border boxSize ()) process []).map (·.1)).foldl drawBox
          (Array.replicate (pixel_size border width boxSize) (Array.replicate (pixel_size border width boxSize) false)) := by
  rw [C12_source_pilCalls_src, List.nil_append, C12_source_pilRaster_calls ()]
  rfl

/-- `PilImage.save(stream, format, **kwargs)`: format = `format`, else keyword `kind`, else the class's `kind`; `kind` is
    removed from the keywords passed to Pillow (no Model counterpart: closed form) -/
theorem C12_source_pilSave_src (selfKind : String) (format : Option String) (kwargs : List (String × String)) :
    rd_pil_save selfKind format kwargs =
      (some (format.getD ((kwargs.lookup "kind").getD selfKind)), kwargs.filter fun p => p.1 != "kind") := by
  unfold rd_pil_save rd_py_pop
  cases format <;> rfl

/-- the call `PilImage.save` ends with -/
theorem C12_source_pilSave_literals :
    rd_pil_save_callee = "self._img.save" ∧ rd_pil_save_call_shape = ["stream", "format=format", "**=kwargs"] :=
  ⟨rfl, rfl⟩

/-- `BaseImage.check_kind(kind, transform)` = the closed form `checkKind` (no Model counterpart), for all arguments -/
theorem C12_source_checkKind_src (selfKind : Option String) (allowed : Option (List String)) (kind : Option String)
    (transform : Option (Option String → Option String)) :
    rd_check_kind selfKind allowed kind transform.isSome (transform.getD id) = checkKind selfKind allowed kind transform := by
  unfold rd_check_kind checkKind rd_py_truthy_tuple
  have hin : ∀ k, rd_py_in k allowed = kindAllowed k allowed := fun k => by cases k <;> rfl
  dsimp only
  simp only [hin]
  cases transform with
  | none =>
    simp only [Option.isSome_none, Option.getD_none]
    generalize (allowed.getD []).isEmpty = e
    generalize kindAllowed (if kind.isNone then selfKind else kind) allowed = a
    cases e <;> cases a <;> rfl
  | some t =>
    simp only [Option.isSome_some, Option.getD_some]
    generalize (allowed.getD []).isEmpty = e
    generalize kindAllowed (t (if kind.isNone then selfKind else kind)) allowed = b
    generalize kindAllowed (if kind.isNone then selfKind else kind) allowed = a
    cases e <;> cases a <;> cases b <;> rfl

/-- `kind` / `allowed_kinds` of every image class, resolved along the class hierarchy -/
theorem C12_source_classKinds_literals :
    rd_class_kinds = [("PilImage", (some "PNG", none)), ("PyPNGImage", (some "PNG", some ["PNG"])),
      ("StyledPilImage", (some "PNG", none)), ("SvgFragmentImage", (some "SVG", some ["SVG"])),
      ("SvgImage", (some "SVG", some ["SVG"])), ("SvgFillImage", (some "SVG", some ["SVG"])),
      ("SvgPathImage", (some "SVG", some ["SVG"])), ("SvgPathFillImage", (some "SVG", some ["SVG"]))] := rfl

/-- `BaseImage.get_image(**kwargs)` returns `self._img` -/
theorem C12_source_getImage_src {I K : Type} (img : I) (kw : K) : rd_get_image img kw = img := rfl

/-- `BaseImage.drawrect_context` / `BaseImage.process` raise NotImplementedError (a factory with `needs_context` /
    `needs_processing` must override them) -/
theorem C12_source_baseStubs_literals :
    rd_base_drawrect_context_raises = "NotImplementedError" ∧ rd_base_process_raises = "NotImplementedError" :=
  ⟨rfl, rfl⟩

end SourceTieD4

/-! ### Capstones: the translated raster code itself is pixel-exact against `Spec.rasterDark`. -/
section Capstone
open QR.Gen.Code QR.SourceTieD4

/-- **capstone, `image/pure.py:PyPNGImage.rows_iter` + `border_rows_iter`, `image/base.py:BaseImage.__init__` (`pixel_size`)**
    (all translated: `pypng_rows`, `pixel_size`): for every `n × n` matrix, border and box size ≥ 1 the rows handed to the PNG
    writer are a `pixel_size × pixel_size` square of bits, `pixel_size = (n + 2·border)·box`, and pixel (x, y) is black (0) iff
    the framed symbol is dark at module `(y / box, x / box)` (`Spec.rasterDark`) - pixel-exact.
    From `C12_source_pypngRows_src`, `C12_source_pixelSize_src`, `C12_pure`, `C12_size`. -/
theorem C12_source_capstone_pypng_rows (M : Mods) (n border box : Nat) (hlen : M.length = n)
    (hrow : ∀ row ∈ M, row.length = n) (hb : 1 ≤ box) :
    (pypng_rows M n border box).length = pixel_size border n box ∧
    (∀ row ∈ pypng_rows M n border box, row.length = pixel_size border n box) ∧
    (∀ row ∈ pypng_rows M n border box, ∀ v ∈ row, v = 0 ∨ v = 1) ∧
    pixel_size border n box = (n + 2 * border) * box ∧
    ∀ x y, x < pixel_size border n box → y < pixel_size border n box →
      (((pypng_rows M n border box).getD y []).getD x 1 = 0 ↔ Spec.rasterDark M n border box x y = true) := by
  have h := C12_pure M n border box hlen hrow hb
  have hs := (C12_size M n border box hlen hrow hb).1
  rw [C12_source_pypngRows_src, C12_source_pixelSize_src] at h
  rw [C12_source_pixelSize_src] at hs
  exact ⟨h.1, h.2.1, h.2.2.1, hs, h.2.2.2⟩

/-- **capstone, `main.py:QRCode.make_image` (draw loop, class flags of `PilImage`) + `image/pil.py:PilImage.drawrect` +
    `image/base.py:BaseImage.pixel_box` / `pixel_size`** (all translated).  Partly translated chain: Pillow's
    `ImageDraw.rectangle` is NOT Python source of the library; it is the explicit `Model.drawBox` (assumption A-PIL: fills exactly
    the closed box), folded over the rectangle calls the translated code makes on a `pixel_size` square background canvas.
    The resulting raster is `pixel_size × pixel_size` and pixel (x, y) has the fill colour iff `Spec.rasterDark` - pixel-exact,
    whatever `drawrect_context` / `process` are (never called for `PilImage`).  From `C12_source_pilRaster_src`,
    `C12_source_pixelSize_src`, `C12_pil`. -/
theorem C12_source_capstone_pil_raster (M : Mods) (n border box : Nat) (hlen : M.length = n)
    (hrow : ∀ row ∈ M, row.length = n) (hb : 1 ≤ box)
    (ctx : Nat → Nat → List (rd_Box × Unit) → List (rd_Box × Unit)) (process : List (rd_Box × Unit) → List (rd_Box × Unit)) :
    let R := ((makeImageDraw "PilImage" n M ctx (rd_pil_drawrect border box ()) process []).map (·.1)).foldl drawBox
          (Array.replicate (pixel_size border n box) (Array.replicate (pixel_size border n box) false))
    R.size = pixel_size border n box ∧ (∀ row ∈ R, row.size = pixel_size border n box) ∧
    ∀ x y, x < pixel_size border n box → y < pixel_size border n box →
      (R.getD y #[]).getD x false = Spec.rasterDark M n border box x y := by
  have h := C12_pil M n border box hlen hrow hb
  rw [C12_source_pilRaster_src M n border box ctx process, C12_source_pixelSize_src] at h
  exact h

/-- **capstone, `image/base.py:BaseImage.pixel_box`** (translated `Gen.Code.pixel_box`): the closed box of exactly the pixels whose
    module coordinates are `(row + border, col + border)`.  From `C12_source_pixel_box`, `C12_pixel_box`. -/
theorem C12_source_capstone_pixel_box (border box row col x y : Nat) (hb : 1 ≤ box) :
    let ((x0, y0), (x1, y1)) := Gen.Code.pixel_box border box row col
    (x0 ≤ x ∧ x ≤ x1 ∧ y0 ≤ y ∧ y ≤ y1) ↔ (x / box = col + border ∧ y / box = row + border) := by
  rw [C12_source_pixel_box]; exact C12_pixel_box border box row col x y hb

/-- the translated row iterator evaluated on a 2 x 2 symbol, border 1, box 2 (8 x 8 pixels), with two Spec pixels -/
example : let M : Mods := [[true, false], [false, true]]
    pypng_rows M 2 1 2 =
      [[1,1,1,1,1,1,1,1], [1,1,1,1,1,1,1,1],
       [1,1,0,0,1,1,1,1], [1,1,0,0,1,1,1,1],
       [1,1,1,1,0,0,1,1], [1,1,1,1,0,0,1,1],
       [1,1,1,1,1,1,1,1], [1,1,1,1,1,1,1,1]] ∧ pixel_size 1 2 2 = 8 ∧
    Spec.rasterDark M 2 1 2 2 3 = true ∧ Spec.rasterDark M 2 1 2 4 3 = false := by decide
end Capstone

/-- the Python functions this property's model mirrors have, in /repo's current working tree, exactly the normalised
    ASTs the model was written and validated against (fingerprints regenerated by T1 on every run) -/
theorem C12_source_fingerprints : QR.Gen.fp_C12 = QR.Pinned.fp_C12 := rfl

end QR.Props
