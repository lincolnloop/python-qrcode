import QR.Model.Release
import QR.Spec.Release
import QR.Proofs.Release
import QR.Proofs.Pinned
import QR.Proofs.SourceTieC20
/-
C20 - the manual-page release hook (qrcode/release.py `update_manpage`).

The hook rewrites only the version and date fields of the first well-formed `.TH` header line of doc/qr.1;
applying it twice is the same as applying it once; it writes nothing for another package name, for an unchanged
version, or for a page without a well-formed header line.

`Model.updateManpage name ver date page : Option (List Char)` is the model of the code (`none` = nothing written,
`some text` = the text written); `Spec.expectedManpage` is the property's definition via quote positions.
The lemmas are in QR/Proofs/Release.lean.  Main: `C20_only_header` (model = Spec), of which `C20_only_fields`, `C20_idempotent` and the
no-op theorems are corollaries.
`C20_source_*`: bridges, capstones and the fingerprint obligation (the three kinds are explained at the head of Props/C02.lean).
-/
namespace QR.Props
open QR.Model QR.Spec

/-- `'"'.join(re.split('"([^"]*)"', line)) == line`: splitting a line at its quoted fields and joining the parts
with `'"'` again is the identity (so a rewritten line differs from the old one only in the parts assigned to).
(Holds for every fuel: `hf` is not used.) -/
theorem C20_split_join (line : List Char) (fuel : Nat) (hf : line.length < fuel) :
    joinQuote (reSplit fuel line) = line :=
  Proofs.Release.joinQuote_reSplit fuel line

/-- `readlines()` loses nothing: concatenating the lines gives the page back. -/
theorem C20_readlines_flatten (fuel : Nat) (page : List Char) (hf : page.length < fuel) :
    (readLines fuel page).flatten = page :=
  Proofs.Release.readLines_eq_lineSplit fuel page ▸ Proofs.Release.lineSplit_flatten fuel page hf

/-- every line returned by `readlines()` except possibly the last one ends with `'\n'` and contains no other
`'\n'`. -/
theorem C20_readlines_nonlast (fuel : Nat) (page : List Char) (i : Nat)
    (hi : i + 1 < (readLines fuel page).length) :
    ∃ b, (readLines fuel page)[i] = b ++ ['\n'] ∧ ∀ c ∈ b, c ≠ '\n' :=
  ((Proofs.Release.lines_iff _).1 (Proofs.Release.lines_readLines fuel page) i (by omega)).resolve_right fun h => by omega

/-- every line (in particular the last) is non-empty and has no `'\n'` except possibly as its last character. -/
theorem C20_readlines_any (fuel : Nat) (page : List Char) (i : Nat) (hi : i < (readLines fuel page).length) :
    (∃ b, (readLines fuel page)[i] = b ++ ['\n'] ∧ ∀ c ∈ b, c ≠ '\n') ∨
    ((readLines fuel page)[i] ≠ [] ∧ ∀ c ∈ (readLines fuel page)[i], c ≠ '\n') :=
  ((Proofs.Release.lines_iff _).1 (Proofs.Release.lines_readLines fuel page) i hi).imp_right And.left

/-- Main theorem: the model of the code equals the property's definition.  Only quoted fields 0 (date) and
1 (version) of the first well-formed header line change, every other line and the rest of that line are kept,
in order; nothing is written (`none`) exactly when the package name differs, no well-formed header line exists,
or the version field of the first one already equals `ver`.
(The hypotheses on `ver` and `date` are not used: the equality holds for arbitrary strings.) -/
theorem C20_only_header (name ver date page : List Char)
    (hv : ∀ c ∈ ver, c ≠ '"' ∧ c ≠ '\n') (hd : ∀ c ∈ date, c ≠ '"' ∧ c ≠ '\n') :
    updateManpage name ver date page = expectedManpage name ver date page :=
  Proofs.Release.updateManpage_eq_expected name ver date page

/-- the same without hypotheses on the strings -/
theorem C20_only_header' (name ver date page : List Char) :
    updateManpage name ver date page = expectedManpage name ver date page :=
  Proofs.Release.updateManpage_eq_expected name ver date page

/-- Definition-free reading of "only the two fields change": whenever something is written, the page has the form
`pre ++ t0 "f0" t1 "f1" r ++ post` with `t0, f0, t1, f1` free of quotes and `t0` starting with `.TH `, the old
version field `f1` differs from `ver`, and the text written is `pre ++ t0 "date" t1 "ver" r ++ post`. -/
theorem C20_only_fields (ver date page page' : List Char)
    (h : updateManpage "qrcode".toList ver date page = some page') :
    ∃ pre t0 f0 t1 f1 r post,
      page = pre ++ (t0 ++ '"' :: (f0 ++ '"' :: (t1 ++ '"' :: (f1 ++ '"' :: r)))) ++ post ∧
      page' = pre ++ (t0 ++ '"' :: (date ++ '"' :: (t1 ++ '"' :: (ver ++ '"' :: r)))) ++ post ∧
      f1 ≠ ver ∧ (∀ c ∈ t0, c ≠ '"') ∧ (∀ c ∈ f0, c ≠ '"') ∧ (∀ c ∈ t1, c ≠ '"') ∧ (∀ c ∈ f1, c ≠ '"') ∧
      t0.take 4 = ".TH ".toList := by
  open Proofs.Release in
  obtain ⟨L, i, t0, f0, t1, f1, r, hi, hL, _, hline, ht0, hf0, ht1, hf1, hTH, hne, hp⟩ :=
    updateManpage_some ver date page page' h
  have hflat : L.flatten = page := hL ▸ lineSplit_flatten (page.length + 1) page (Nat.lt_succ_self _)
  refine ⟨(L.take i).flatten, t0, f0, t1, f1, r, (L.drop (i + 1)).flatten, ?_, ?_, hne, ht0, hf0, ht1, hf1, hTH⟩
  · rw [← hflat, flatten_eq_take_getElem_drop L i hi, hline, hdr]
  · rw [hp, flatten_set L i hi, hdr]

/-- Idempotence: after a successful run, a second run with the same version writes nothing - even on another day
(`date'` arbitrary).  `ver` and `date` must contain neither `'"'` nor `'\n'`; each of the four conditions is
necessary (without any one of them a second run on a page with two header lines writes again). -/
theorem C20_idempotent (ver date date' page page' : List Char)
    (hv : ∀ c ∈ ver, c ≠ '"' ∧ c ≠ '\n') (hd : ∀ c ∈ date, c ≠ '"' ∧ c ≠ '\n')
    (h : updateManpage "qrcode".toList ver date page = some page') :
    updateManpage "qrcode".toList ver date' page' = none :=
  Proofs.Release.idempotent ver date date' page page' hv hd h

/-- nothing is written for another package name -/
theorem C20_other_package (name ver date page : List Char) (h : name ≠ "qrcode".toList) :
    updateManpage name ver date page = none := by
  unfold updateManpage
  have : (name != "qrcode".toList) = true := by simpa using h
  rw [if_pos this]

/-- nothing is written when no line of the page is a well-formed header line -/
theorem C20_noop_no_header (name ver date page : List Char)
    (h : ∀ l ∈ lineSplit (page.length + 1) page, wellFormedHeader l = false) :
    updateManpage name ver date page = none := by
  open Proofs.Release in
  have hn : (lineSplit (page.length + 1) page).findIdx? wellFormedHeader = none :=
    List.findIdx?_eq_none_iff.2 (by simpa using h)
  rw [updateManpage_eq_expected]; simp only [expectedManpage, hn, ite_self]

/-- nothing is written when the version field (quoted field 1) of the first well-formed header line
already equals `ver` -/
theorem C20_noop_same_version (name ver date page : List Char) (i : Nat)
    (hi : i < (lineSplit (page.length + 1) page).length)
    (hwf : wellFormedHeader (lineSplit (page.length + 1) page)[i] = true)
    (hfirst : ∀ j (hj : j < i), wellFormedHeader ((lineSplit (page.length + 1) page)[j]'(by omega)) = false)
    (hq : quotedField (lineSplit (page.length + 1) page)[i] 1 = ver) :
    updateManpage name ver date page = none := by
  open Proofs.Release in
  by_cases hn : name = "qrcode".toList
  · subst hn
    exact updateManpage_none_of_same_version ver date page _ rfl i hi hwf hfirst hq
  · exact C20_other_package name ver date page hn

/-- the lines used in the two no-op statements are the lines the code reads -/
theorem C20_lines_agree (fuel : Nat) (page : List Char) : readLines fuel page = lineSplit fuel page :=
  Proofs.Release.readLines_eq_lineSplit fuel page

/-- non-vacuity: on a concrete page with a malformed `.TH` line, a good one and a later one, exactly the date and
version of the good one are rewritten, and a second run (another day) writes nothing -/
example :
    updateManpage "qrcode".toList "8.0".toList "26 Sep 2026".toList
      "x\n.TH QR 1 \"only one\"\n.TH QR 1 \"1 Jan 2020\" \"7.0\" \"tool\"\n.TH A \"d\" \"6.0\"".toList
    = some "x\n.TH QR 1 \"only one\"\n.TH QR 1 \"26 Sep 2026\" \"8.0\" \"tool\"\n.TH A \"d\" \"6.0\"".toList
    ∧ updateManpage "qrcode".toList "8.0".toList "27 Sep 2026".toList
      "x\n.TH QR 1 \"only one\"\n.TH QR 1 \"26 Sep 2026\" \"8.0\" \"tool\"\n.TH A \"d\" \"6.0\"".toList = none := by
  -- `String.toList` of a literal is dear in the kernel (UTF-8 decoding); the literals become character lists first
  repeat rw [String.toList_ofList]
  decide +kernel

/-- the literals `update_manpage` depends on, as they stand in the source: package name, header prefix ".TH ", the quote-pair
    pattern, field indices 3 (version) and 1 (date), the bound 5 on the number of parts -/
theorem C20_source_literals :
    Gen.Code.release_strings = ["qrcode", "doc", "qr.1", "name", "\"([^\"]*)\"", ".TH ", "new_version", "new_version", "%-d %b %Y", "w", "\""] ∧
    Gen.Code.release_ints = [5, 3, 3, 1] :=
  ⟨rfl, rfl⟩

/-! ### Bridges (plugin `frag_c.py`, `Gen.Code.manpage_*`): `release.update_manpage`; the Python builtins are bridged in
    QR/Proofs/SourceTieC20.lean. -/
section SourceTieT
open QR.Gen.Code QR.SourceTieT

theorem C20_source_manpage_literals_src :
    manpage_path_base_dir = "os.path.dirname(os.path.dirname(os.path.abspath(__file__)))" ∧
    manpage_path_filename = "os.path.join(base_dir, 'doc', 'qr.1')" ∧
    manpage_read_open = "open(filename)" ∧ manpage_write_open = "open(filename, 'w')" ∧
    manpage_split_pattern = "\"([^\"]*)\"" ∧ manpage_date_format = "%-d %b %Y" :=
  ⟨rfl, rfl, rfl, rfl, rfl, rfl⟩

/-- the loop `for i, line in enumerate(lines): ...` with its `continue`s and its `break`: `Model.processLines` is the translated
loop started with `changed = False`, for every list of lines -/
theorem C20_source_processLines_src (name v d : List Char) (L : List (List Char)) :
    processLines v d L = manpage_loop name v d false L := by
  induction L with
  | nil => rfl
  | cons line rest ih =>
    simp only [processLines, manpage_loop, manpage_body, ← startsWithTH_src, ← reSplit_src, ← joinQuote_src, ih]
    cases h1 : startsWithTH line
    · simp
    · by_cases h2 : (reSplit (line.length + 1) line).length < 5
      · simp [h2]
      · cases h3 : ((reSplit (line.length + 1) line).getD 3 [] != v) <;> simp [h2]

/-- `update_manpage(data)`: the model equals the translated function - the `data["name"] != "qrcode"` early return, `readlines`,
`changed = False`, the loop, and the final `if changed:` write of all lines - for every name, version, date and page text -/
theorem C20_source_updateManpage_src (name v d page : List Char) :
    updateManpage name v d page = manpage_update name v d page := by
  have hq : "qrcode".toList = ['q', 'r', 'c', 'o', 'd', 'e'] := String.toList_ofList
  simp only [updateManpage, manpage_update, hq, readLines_fuel_src _ page (Nat.lt_succ_self _),
    C20_source_processLines_src name]

end SourceTieT

/-! ### Capstones: the translated source itself (`Gen.Code.manpage_update`) satisfies the Spec statement, for all inputs; no `QR.Model`
    function occurs in a conclusion. Covered: `qrcode/release.py:update_manpage` as a whole - the
    `data["name"] != "qrcode"` early return, `readlines()`, the `for i, line in enumerate(lines)` loop with its
    `continue`s and `break`, `re.split`, `'"'.join`, the final `if changed:` write. The Python library functions
    (`str.startswith`, `str.join`, `readlines`, `re.split` for this pattern) are the translator's `manpage_py_*`
    definitions in `Gen.Code`; file I/O is abstracted to page text in / text written out (`none` = nothing written);
    the `strftime` result is the parameter `date`. -/
section Capstone
open QR.Gen.Code

/-- **capstone, `qrcode/release.py:update_manpage`** = `Spec.expectedManpage`, for arbitrary name, version, date and page: only
    quoted fields 0 (date) and 1 (version) of the first well-formed `.TH` header line change, everything else is kept in
    order; nothing is written exactly when the package name differs, no well-formed header line exists, or the version
    field already equals the new version. From `C20_source_updateManpage_src` and `C20_only_header'`. -/
theorem C20_source_capstone_only_header (name ver date page : List Char) :
    manpage_update name ver date page = expectedManpage name ver date page := by
  rw [← C20_source_updateManpage_src name ver date page]
  exact C20_only_header' name ver date page

/-- **capstone, `qrcode/release.py:update_manpage`**, definition-free: whenever the translated function writes something, the page
    has the form `pre ++ t0 "f0" t1 "f1" r ++ post` (`t0, f0, t1, f1` quote-free, `t0` starting with `.TH `), the old
    version `f1` differs from `ver`, and the text written is `pre ++ t0 "date" t1 "ver" r ++ post`.
    From `C20_source_updateManpage_src` and `C20_only_fields`. -/
theorem C20_source_capstone_only_fields (ver date page page' : List Char)
    (h : manpage_update "qrcode".toList ver date page = some page') :
    ∃ pre t0 f0 t1 f1 r post,
      page = pre ++ (t0 ++ '"' :: (f0 ++ '"' :: (t1 ++ '"' :: (f1 ++ '"' :: r)))) ++ post ∧
      page' = pre ++ (t0 ++ '"' :: (date ++ '"' :: (t1 ++ '"' :: (ver ++ '"' :: r)))) ++ post ∧
      f1 ≠ ver ∧ (∀ c ∈ t0, c ≠ '"') ∧ (∀ c ∈ f0, c ≠ '"') ∧ (∀ c ∈ t1, c ≠ '"') ∧ (∀ c ∈ f1, c ≠ '"') ∧
      t0.take 4 = ".TH ".toList := by
  rw [← C20_source_updateManpage_src] at h
  exact C20_only_fields ver date page page' h

/-- **capstone, `qrcode/release.py:update_manpage`**, idempotence: after a run of the translated function that wrote `page'`, a
    second run with the same version writes nothing, whatever the date (`ver`, `date` free of `'"'` and `'\n'`).
    From `C20_source_updateManpage_src` (twice) and `C20_idempotent`. -/
theorem C20_source_capstone_idempotent (ver date date' page page' : List Char)
    (hv : ∀ c ∈ ver, c ≠ '"' ∧ c ≠ '\n') (hd : ∀ c ∈ date, c ≠ '"' ∧ c ≠ '\n')
    (h : manpage_update "qrcode".toList ver date page = some page') :
    manpage_update "qrcode".toList ver date' page' = none := by
  rw [← C20_source_updateManpage_src] at h ⊢
  exact C20_idempotent ver date date' page page' hv hd h

/-- **capstone, `qrcode/release.py:update_manpage`**, the three no-op cases on the translated function: another package name; no
    well-formed header line among the lines of the page (`Spec.lineSplit`); the version field (quoted field 1) of the
    first well-formed header line already equals `ver`.
    From `C20_source_updateManpage_src` and `C20_other_package`, `C20_noop_no_header`, `C20_noop_same_version`. -/
theorem C20_source_capstone_noop (name ver date page : List Char) :
    (name ≠ "qrcode".toList → manpage_update name ver date page = none) ∧
    ((∀ l ∈ lineSplit (page.length + 1) page, wellFormedHeader l = false) → manpage_update name ver date page = none) ∧
    (∀ i (hi : i < (lineSplit (page.length + 1) page).length),
      wellFormedHeader (lineSplit (page.length + 1) page)[i] = true →
      (∀ j (hj : j < i), wellFormedHeader ((lineSplit (page.length + 1) page)[j]'(by omega)) = false) →
      quotedField (lineSplit (page.length + 1) page)[i] 1 = ver →
      manpage_update name ver date page = none) := by
  rw [← C20_source_updateManpage_src name ver date page]
  exact ⟨C20_other_package name ver date page, C20_noop_no_header name ver date page,
    fun i hi hwf hfirst hq => C20_noop_same_version name ver date page i hi hwf hfirst hq⟩

/-- the translated function evaluated by the kernel on a concrete page (a malformed `.TH` line, a good one, a later one):
    exactly the date and version of the good one are rewritten; a second run on another day writes nothing
    (as `C20_source_capstone_only_fields` / `C20_source_capstone_idempotent` say) -/
example :
    manpage_update "qrcode".toList "8.0".toList "26 Sep 2026".toList
      "x\n.TH QR 1 \"only one\"\n.TH QR 1 \"1 Jan 2020\" \"7.0\" \"tool\"\n.TH A \"d\" \"6.0\"".toList
    = some "x\n.TH QR 1 \"only one\"\n.TH QR 1 \"26 Sep 2026\" \"8.0\" \"tool\"\n.TH A \"d\" \"6.0\"".toList
    ∧ manpage_update "qrcode".toList "8.0".toList "27 Sep 2026".toList
      "x\n.TH QR 1 \"only one\"\n.TH QR 1 \"26 Sep 2026\" \"8.0\" \"tool\"\n.TH A \"d\" \"6.0\"".toList = none := by
  -- literals to character lists first, as in the example for the Model above
  repeat rw [String.toList_ofList]
  decide +kernel

end Capstone

/-- the Python functions this property's model mirrors have, in /repo's current working tree, exactly the normalised
    ASTs the model was written and validated against (fingerprints regenerated by T1 on every run) -/
theorem C20_source_fingerprints : QR.Gen.fp_C20 = QR.Pinned.fp_C20 := by decide

end QR.Props
