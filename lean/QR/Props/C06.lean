import QR.Proofs.Stream
import QR.Proofs.SourceTieC06
import QR.Proofs.Pinned
import QR.Proofs.SourceTieC06Write
import QR.Props.C02
/-
C06 - the data codewords of every symbol form a conformant ISO bit stream.
Model side: `Model.dataBits` mirrors util.create_data (headers through BitBuffer.put, QRData.write, terminator, bit padding,
alternating pad codewords).  Spec side: `Spec.readStream` is a *parser/recogniser* of the ISO grammar (mode indicator,
count width by version class, group bounds 999/99/9 and 45^2, terminator <= 4 zero bits, zero bits to the codeword
boundary, 0xEC/0x11 alternation up to the capacity).  All statements are for every segment list, every version 1..40,
every level - unbounded in the number and length of segments.  `C06_stream` … `C06_ok_of_fits` restate the theorems of the same names
in QR/Proofs/Stream.lean (projections of `dataBits_char`).
`C06_source_*`: bridges, capstones and the fingerprint obligation (the three kinds are explained at the head of Props/C02.lean).
-/
namespace QR.Props
open QR.Model

/-- **C06 (main)**: whenever `create_data` does not overflow, the ISO recogniser accepts the produced bit stream,
    returns exactly the segments, and finds terminator / bit padding / pad codewords conformant -/
theorem C06_stream {v : Nat} (h1 : 1 ≤ v) (h40 : v ≤ 40) (l : Spec.Level) {segs : List Seg}
    (hvalid : ∀ s ∈ segs, s.Valid) {ps : List Spec.PSeg} (hps : toPSegs segs = some ps) {all : List Bool}
    (h : dataBits v l.indicator segs = .ok all) :
    Spec.readStream v all = some { segs := ps, tailConformant := true } :=
  _root_.QR.C06_stream h1 h40 l hvalid hps h

/-- the same for the data *codewords* (the packed bytes handed to `create_bytes`): they number exactly the ISO data
    capacity of (v, l), are bytes, and read back to the segments -/
theorem C06_codewords {v : Nat} (h1 : 1 ≤ v) (h40 : v ≤ 40) (l : Spec.Level) {segs : List Seg}
    (hvalid : ∀ s ∈ segs, s.Valid) {ps : List Spec.PSeg} (hps : toPSegs segs = some ps) {all : List Bool}
    (h : dataBits v l.indicator segs = .ok all) :
    Spec.readStream v (writeBytes (packBytes all)) = some { segs := ps, tailConformant := true } ∧
    (packBytes all).length = Spec.dataCodewords v l ∧ ∀ b ∈ packBytes all, b < 256 :=
  _root_.QR.C06_codewords h1 h40 l hvalid hps h

/-- overflow is decided exactly by the closed-form stream length against the capacity (shared with C03) -/
theorem C06_overflow_iff {v : Nat} (h1 : 1 ≤ v) (h40 : v ≤ 40) (l : Spec.Level) {segs : List Seg}
    (hvalid : ∀ s ∈ segs, s.Valid) {ps : List Spec.PSeg} (hps : toPSegs segs = some ps) :
    dataBits v l.indicator segs = .error .dataOverflow ↔ Spec.streamBits v (segCounts ps) > Spec.capacityBits v l :=
  _root_.QR.C06_overflow_iff h1 h40 l hvalid hps

/-- and otherwise `create_data` (up to `create_bytes`) succeeds: no other error for valid segments -/
theorem C06_ok_of_fits {v : Nat} (h1 : 1 ≤ v) (h40 : v ≤ 40) (l : Spec.Level) {segs : List Seg}
    (hvalid : ∀ s ∈ segs, s.Valid) {ps : List Spec.PSeg} (hps : toPSegs segs = some ps)
    (hfit : Spec.streamBits v (segCounts ps) ≤ Spec.capacityBits v l) :
    ∃ all, dataBits v l.indicator segs = .ok all :=
  _root_.QR.C06_ok_of_fits h1 h40 l hvalid hps hfit

/-- a character count never overflows its count field in a stream that fits (so `put(len, width)` loses nothing) -/
theorem C06_count_fits {v : Nat} (h1 : 1 ≤ v) (h40 : v ≤ 40) (l : Spec.Level) {ps : List Spec.PSeg}
    (hfit : Spec.streamBits v (segCounts ps) ≤ Spec.capacityBits v l) :
    ∀ p ∈ ps, p.data.length < 2 ^ Spec.countWidth v p.mode :=
  _root_.QR.count_fits_of_fits h1 h40 l hfit

/-- count widths = ISO Table 3 for all 40 versions x 3 modes (class boundaries 9|10 and 26|27); tables from the source -/
theorem C06_count_widths : ∀ v, v < 40 → ∀ m ∈ allModes,
    Model.lengthInBits m.indicator (v + 1) = .ok (Spec.countWidth (v + 1) m) := C06_widths

/-- mode indicators, pad codewords, numeric group widths, alphanumeric table = ISO -/
theorem C06_iso_constants :
    Gen.MODE_NUMBER = Spec.Mode.numeric.indicator ∧ Gen.MODE_ALPHA_NUM = Spec.Mode.alnum.indicator ∧
    Gen.MODE_8BIT_BYTE = Spec.Mode.byte.indicator ∧ Gen.PAD0 = 0xEC ∧ Gen.PAD1 = 0x11 ∧
    Gen.NUMBER_LENGTH = [(1, 4), (2, 7), (3, 10)] ∧ Gen.ALPHA_NUM = Spec.alnumTable := C06_constants

/-- non-vacuity: a mixed three-segment list at version 2-L satisfies the hypotheses -/
example : (∀ s ∈ ([⟨1, [49, 50, 51, 52]⟩, ⟨2, [65, 32, 66]⟩, ⟨4, [0, 255, 104]⟩] : List Seg), s.Valid) := by
  intro s hs
  simp only [List.mem_cons, List.mem_nil_iff, or_false] at hs
  rcases hs with rfl | rfl | rfl
  · left; exact ⟨rfl, by decide⟩
  · right; left; exact ⟨rfl, by decide⟩
  · right; right; exact ⟨rfl, by decide⟩

/-! ### Bridges (`tools/translate.py` itself: single expressions and literals) for `mode_sizes_for_version`, `create_data` -/

/-- version-class boundaries of `mode_sizes_for_version` as they stand in the source -/
theorem C06_source_class (v : Nat) : Gen.Code.mode_size_class v = Model.sizeClass v := QR.SourceTie.sizeClass_eq v

/-- `create_data` with the overflow test, terminator length and pad alternation translated from the source -/
theorem C06_source_create_data (version level : Nat) (segs : List Seg) :
    dataBits version level segs = (do
      let buffer ← segsBits (fun m => lengthInBits m version) segs
      let blocks ← rsBlocks version level
      let bitLimit := (blocks.map fun b => b.2 * 8).sum
      if Gen.Code.overflow_test buffer.length bitLimit then .error .dataOverflow
      else
        let buffer := buffer ++ List.replicate (Gen.Code.terminator_len buffer.length bitLimit) false
        let delimit := buffer.length % 8
        let buffer := if delimit ≠ 0 then buffer ++ List.replicate (8 - delimit) false else buffer
        let bytesToFill := (bitLimit - buffer.length) / 8
        pure (buffer ++ padBytes bytesToFill)) ∧
    (∀ n, padBytes n = (List.range n).flatMap fun i => bitsBE (if Gen.Code.pad_first i then Gen.PAD0 else Gen.PAD1) 8) ∧
    Gen.Code.pad_names = ("PAD0", "PAD1") :=
  ⟨QR.SourceTie.dataBits_eq version level segs, QR.SourceTie.padBytes_eq, QR.SourceTie.createData_pieces.2.2.2⟩

/-- `QRData.write` as it stands in the source: digit groups of 3, alphanumeric pairs 45·a+b in 11 bits, singles in 6, bytes in 8 -/
theorem C06_source_write :
    Gen.Code.write_steps = [3, 2] ∧
    Gen.Code.write_puts = ["buffer.put(int(chars), bit_length)", "buffer.put(c, 8)",
      "buffer.put(ALPHA_NUM.find(chars[0]) * 45 + ALPHA_NUM.find(chars[1]), 11)", "buffer.put(ALPHA_NUM.find(chars), 6)"] :=
  ⟨rfl, rfl⟩

/-! ### Bridges (plugin `frag_a.py`): `util.length_in_bits`, `QRData.__len__` -/
section SourceTieA
open QR.Gen.Code

theorem C06_source_mode_consts_src : const_MODE_NUMBER = Gen.MODE_NUMBER ∧ const_MODE_ALPHA_NUM = Gen.MODE_ALPHA_NUM ∧
    const_MODE_8BIT_BYTE = Gen.MODE_8BIT_BYTE ∧ const_MODE_KANJI = Gen.MODE_KANJI :=
  ⟨rfl, rfl, rfl, rfl⟩

theorem C06_source_length_in_bits_literals : length_in_bits_exception = "TypeError" ∧
    length_in_bits_check = "check_version(version)" ∧ length_in_bits_table = "mode_sizes_for_version(version)" :=
  ⟨rfl, rfl, rfl⟩

/-- **length_in_bits**: the translated mode test (`mode not in (MODE_NUMBER, MODE_ALPHA_NUM, MODE_8BIT_BYTE,
    MODE_KANJI)` → TypeError), then `check_version(version)` (translated by T2 as `check_version_bad`), then the lookup
    `mode_sizes_for_version(version)[mode]` with T2's `mode_size_class` choosing the dictionary. -/
theorem C06_source_lengthInBits_src (mode version : Nat) :
    lengthInBits mode version =
      if length_in_bits_bad_mode mode then .error .typeError
      else if check_version_bad (version : Int) then .error .valueError
      else dictGet (match mode_size_class version with
                    | 0 => Gen.MODE_SIZE_SMALL
                    | 1 => Gen.MODE_SIZE_MEDIUM
                    | _ => Gen.MODE_SIZE_LARGE) (length_in_bits_key mode) := by
  -- the source's `mode not in (...)`, with the source's constants, is the Model's test
  have hbad : length_in_bits_bad_mode mode =
      !decide (mode = Gen.MODE_NUMBER ∨ mode = Gen.MODE_ALPHA_NUM ∨ mode = Gen.MODE_8BIT_BYTE ∨ mode = Gen.MODE_KANJI) := by
    simp only [Bool.decide_or, ← Bool.or_assoc]
    rfl
  unfold lengthInBits modeSizes length_in_bits_key
  rw [hbad, QR.SourceTie.checkVersion_eq, QR.SourceTie.sizeClass_eq]
  by_cases hm : mode = Gen.MODE_NUMBER ∨ mode = Gen.MODE_ALPHA_NUM ∨ mode = Gen.MODE_8BIT_BYTE ∨ mode = Gen.MODE_KANJI
  · rw [if_neg (not_not_intro hm), decide_eq_true hm]
    cases check_version_bad version <;> rfl
  · rw [if_pos hm, decide_eq_false hm]
    rfl

/-- `QRData.__len__` returns `len(self.data)` (the Model uses `s.data.length` for the character count) -/
theorem C06_source_qrdata_len_src (n : Nat) : qrdata_len n = n :=
  rfl

end SourceTieA

/-! ### Bridges (plugin `frag_c.py`): `util.BitBuffer` and `QRData.write`; the proofs cited are in QR/Proofs/SourceTieC06Write.lean. -/
section SourceTieT
open QR.Gen.Code QR.SourceTieT

theorem C06_source_bbInit_src : bb_init = bbRep [] :=
  rfl

theorem C06_source_bbLen_src (bits : List Bool) : bb_len (bbRep bits).1 (bbRep bits).2 = bits.length :=
  rfl

/-- **BitBuffer.put_bit**: on the object that represents the bit list `bits`, `put_bit(b)` never raises and yields the object
    that represents `bits ++ [b]` (`buffer` = the Model's `packBytes`, `length` = the number of bits). -/
theorem C06_source_put_bit_src {ε : Type} (e : ε) (bits : List Bool) (b : Bool) :
    bb_put_bit e (bbRep bits).1 (bbRep bits).2 b = .ok (bbRep (bits ++ [b])) :=
  QR.SourceTieT.put_bit_src e bits b

/-- **BitBuffer.put** on the translated `put_bit`: the byte list / length pair after `put(num, length)` is the Model's
    packing of `bits ++ bitsBE num length`; no exception. -/
theorem C06_source_put_src (bits : List Bool) (num length : Nat) :
    bb_put (fun (s : List Nat × Nat) b => bb_put_bit Err.indexError s.1 s.2 b) (bbRep bits) num length
      = .ok (bbRep (bits ++ bitsBE num length)) :=
  QR.SourceTieT.put_src bits num length

/-- **BitBuffer.get**: on the object representing `bits`, `get(index)` returns `bits[index]` for every index below the length
    (the Model has no `get`: it keeps the bit list itself). `math.floor(index / 8)` is read as floor division. -/
theorem C06_source_get_src {ε : Type} (e : ε) (bits : List Bool) (index : Nat) (h : index < bits.length) :
    bb_get e (bbRep bits).1 (bbRep bits).2 index = .ok bits[index] := by
  unfold bb_get bbRep
  simp only
  rw [packBytes_getElem _ bits (by omega)]
  simp only [decide_shiftRight_and_one]
  have hs : ((7 : Int) - (((index % 8) : Nat) : Int)).toNat = 7 - index % 8 := by omega
  rw [hs, byteOfBits_testBit _ _ (Nat.mod_lt _ (by omega)) (by rw [List.length_drop]; omega)]
  simp only [List.getElem_drop]
  congr 2; omega

/-- the module-level constants read by `write` -/
theorem C06_source_write_consts_src : qw_MODE_NUMBER = Gen.MODE_NUMBER ∧ qw_MODE_ALPHA_NUM = Gen.MODE_ALPHA_NUM ∧
    qw_MODE_8BIT_BYTE = Gen.MODE_8BIT_BYTE ∧ qw_ALPHA_NUM = Gen.ALPHA_NUM :=
  QR.SourceTieT.write_consts_src

/-- `NUMBER_LENGTH[k]` on the dict literal of the source = the Model's lookup in the (sorted) generated table, KeyError included -/
theorem C06_source_number_length_src (k : Nat) : qw_lookup Err.keyError qw_NUMBER_LENGTH k = dictGet Gen.NUMBER_LENGTH k :=
  QR.SourceTieT.number_length_src k

/-- `ALPHA_NUM.find(c)` for an int `c`, "not found" (-1 in Python) being the Model's rejection -/
theorem C06_source_alphaFind_src (c : Nat) : qw_find_in Err.other qw_ALPHA_NUM c = alphaFind c :=
  QR.SourceTieT.alphaFind_src c

/-- **QRData.write** on the Model's own buffer (the bit list): `write` appends `segWrite s` -/
theorem C06_source_segWrite_src (find_bytes : List Nat → R Nat) (hfb : ∀ a, find_bytes [a] = alphaFind a) (s : Seg) (pre : List Bool) :
    qw_write Err.keyError Err.indexError Err.other intOfDigits find_bytes (fun bits n l => .ok (bits ++ bitsBE n l))
        s.mode s.data pre
      = (segWrite s).map fun bits => pre ++ bits :=
  QR.SourceTieT.segWrite_src_gen id _ (fun _ _ _ => rfl) find_bytes hfb s pre

/-- **QRData.write over the translated BitBuffer**: with `buffer.put` = the translated `put` over the translated `put_bit`,
    the Python object `(buffer.buffer, buffer.length)` after `write` is the Model's packing of `pre ++ segWrite s`. -/
theorem C06_source_segWrite_bytes_src (find_bytes : List Nat → R Nat) (hfb : ∀ a, find_bytes [a] = alphaFind a) (s : Seg) (pre : List Bool) :
    qw_write Err.keyError Err.indexError Err.other intOfDigits find_bytes
        (fun self n l => bb_put (fun (st : List Nat × Nat) b => bb_put_bit Err.indexError st.1 st.2 b) self n l)
        s.mode s.data (bbRep pre)
      = (segWrite s).map fun bits => bbRep (pre ++ bits) :=
  QR.SourceTieT.segWrite_bytes_src find_bytes hfb s pre

end SourceTieT

/-! ### Capstones over the `…Src` functions at the end of QR/Proofs/SourceTieC06Write.lean and SourceTieC02.lean (the right-hand
    sides of the bridges). -/
section Capstone
open QR.Gen.Code QR.SourceTieT QR.CapstoneE2

/-- the source-assembled `create_data` (up to `create_bytes`) with the source-assembled `length_in_bits` and `rs_blocks` is
    `Model.dataBits`, for every version ≥ 1; from `C06_source_create_data`, `C06_source_lengthInBits_src`, `C02_source_rsBlocks_src` -/
theorem C06_source_dataBitsSrc_eq (v level : Nat) (segs : List Seg) (hv : 1 ≤ v) :
    dataBitsSrc segsBits lengthInBitsSrc rsBlocksSrc v level segs = dataBits v level segs := by
  rw [(C06_source_create_data v level segs).1]
  unfold dataBitsSrc
  have e1 : (fun m => lengthInBitsSrc m v) = (fun m => lengthInBits m v) := by
    funext m; exact (C06_source_lengthInBits_src m v).symm
  rw [e1, C02_source_rsBlocksSrc_eq v level hv]
  simp only [(C06_source_create_data v level segs).2.1]

/-- **capstone, util.py:create_data up to the call of create_bytes** (translated: overflow test, terminator length, pad
    alternation; `util.py:length_in_bits` and `base.py:rs_blocks` source-assembled; partly translated chain: the segment loop
    writing the headers and calling `QRData.write` is the parameter `segs_bits`, instantiated by `Model.segsBits` - tied to the
    translated `BitBuffer.put` / `QRData.write` by `C06_source_put_src`, `C06_source_segWrite_src`, and used in its translated
    form in `C06_source_capstone_bitbuffer` below): whenever the source-assembled `create_data` does not raise, the ISO recogniser
    `Spec.readStream` accepts the produced bit stream, returns exactly the segments, and finds terminator / bit padding / pad
    codewords conformant; from `C06_source_dataBitsSrc_eq` and `C06_stream`. -/
theorem C06_source_capstone_stream {v : Nat} (h1 : 1 ≤ v) (h40 : v ≤ 40) (l : Spec.Level) {segs : List Seg}
    (hvalid : ∀ s ∈ segs, s.Valid) {ps : List Spec.PSeg} (hps : toPSegs segs = some ps) {all : List Bool}
    (h : dataBitsSrc segsBits lengthInBitsSrc rsBlocksSrc v l.indicator segs = .ok all) :
    Spec.readStream v all = some { segs := ps, tailConformant := true } := by
  rw [C06_source_dataBitsSrc_eq v l.indicator segs h1] at h
  exact C06_stream h1 h40 l hvalid hps h

/-- **capstone, util.py:create_data → base.py:rs_blocks → util.py:create_bytes (the whole of create_data)**: same coverage as
    `C06_source_capstone_stream` for the stream and as `C02_source_capstone_blocks` for the blocks (parameters instantiated by Model
    functions: `Model.segsBits`, and inside `current_ec` `Model.polyMk`, `Model.polyMod`, `Model.rsPolyFor`).  For every
    version 1..40, level and list of valid segments that fits: packing the source-assembled bit stream into bytes and passing it
    through the translated `rs_blocks` and `create_bytes` succeeds and yields exactly the ISO total number of codewords; the
    reader's de-interleaving (ISO Table 9) returns blocks whose data parts, concatenated and read as a bit stream by the ISO
    recogniser, give back exactly the segments with a conformant tail; and every block is a codeword of the ISO Reed-Solomon
    code; from `C06_codewords` (via `C06_source_dataBitsSrc_eq`) and `C02_source_capstone_blocks`. -/
theorem C06_source_capstone_create_data {v : Nat} (h1 : 1 ≤ v) (h40 : v ≤ 40) (l : Spec.Level) {segs : List Seg}
    (hvalid : ∀ s ∈ segs, s.Valid) {ps : List Spec.PSeg} (hps : toPSegs segs = some ps) {all : List Bool}
    (h : dataBitsSrc segsBits lengthInBitsSrc rsBlocksSrc v l.indicator segs = .ok all) :
    ∃ cw, (rsBlocksSrc v l.indicator >>= fun blocks =>
            createBytesSrc (ecOfBlockSrc rsPolyFor polyMk polyMod) (packBytes all) blocks) = .ok cw ∧
      cw.length = Spec.totalCodewords v ∧
      Spec.readStream v (writeBytes ((Spec.blocksOf v l cw).flatMap (·.data))) =
        some { segs := ps, tailConformant := true } ∧
      ∀ b ∈ Spec.blocksOf v l cw, Spec.isCodeword (Spec.eccLen v l) (b.data ++ b.ec) = true := by
  rw [C06_source_dataBitsSrc_eq v l.indicator segs h1] at h
  obtain ⟨hr, hlen, hb⟩ := C06_codewords h1 h40 l hvalid hps h
  obtain ⟨v', rfl⟩ : ∃ v', v = v' + 1 := ⟨v - 1, by omega⟩
  obtain ⟨cw, hc1, hc2, hc3, hc4⟩ := C02_source_capstone_blocks v' (by omega) l (packBytes all) hlen hb
  exact ⟨cw, hc1, hc2, by rw [hc3]; exact hr, hc4⟩

/-- **capstone, util.py:QRData.write / QRData.__len__ / BitBuffer.put / put_bit / get / __len__ inside util.py:create_data**: the
    segment loop of `create_data` run on the Python object `(buffer.buffer, buffer.length)` with the translated `put` over the
    translated `put_bit`, the translated `QRData.write` and the source-assembled `length_in_bits` (`segsLoopSrc`; the `for`
    skeleton is hand-assembled; `find_bytes` = `ALPHA_NUM.find` on a one-character bytes object, hypothesis `hfb` of the bridge
    kept; `int(chars)` = `Model.intOfDigits`), started on the translated `BitBuffer()`.  If that loop returns the object `o`, and
    `bits` is the content of `o` as the translated `BitBuffer.__len__` / `BitBuffer.get` report it, and the rest of the
    source-assembled `create_data` (overflow test, terminator, padding - on the bit list) turns `bits` into `all`, then the ISO
    recogniser accepts `all`, returns exactly the segments, tail conformant; from `C06_source_put_src`,
    `C06_source_segWrite_bytes_src` (through `QR.CapstoneE2.segsLoopSrc_eq`), `C06_source_bbInit_src`, `C06_source_bbLen_src`,
    `C06_source_get_src` and `C06_source_capstone_stream`. -/
theorem C06_source_capstone_bitbuffer {v : Nat} (h1 : 1 ≤ v) (h40 : v ≤ 40) (l : Spec.Level) {segs : List Seg}
    (hvalid : ∀ s ∈ segs, s.Valid) {ps : List Spec.PSeg} (hps : toPSegs segs = some ps)
    (find_bytes : List Nat → R Nat) (hfb : ∀ a, find_bytes [a] = alphaFind a)
    {o : List Nat × Nat} (ho : segsLoopSrc (fun m => lengthInBitsSrc m v) find_bytes segs bb_init = .ok o)
    {bits : List Bool} (hlen : bits.length = bb_len o.1 o.2)
    (hget : ∀ i (hi : i < bits.length), bb_get Err.indexError o.1 o.2 i = .ok bits[i])
    {all : List Bool}
    (h : dataBitsSrc (fun _ _ => .ok bits) lengthInBitsSrc rsBlocksSrc v l.indicator segs = .ok all) :
    Spec.readStream v all = some { segs := ps, tailConformant := true } := by
  rw [C06_source_bbInit_src, segsLoopSrc_eq _ find_bytes hfb segs []] at ho
  obtain ⟨bits', hsb, rfl⟩ := R.map_eq_ok.mp ho
  rw [List.nil_append] at hlen hget
  rw [C06_source_bbLen_src] at hlen
  have hbits : bits = bits' := by
    apply List.ext_getElem hlen
    intro i hi hi'
    have := hget i hi
    rw [C06_source_get_src Err.indexError bits' i hi'] at this
    exact (Except.ok.inj this).symm
  apply C06_source_capstone_stream h1 h40 l hvalid hps (all := all)
  rw [← h]
  unfold dataBitsSrc
  rw [hsb, hbits]

/-- **capstone, same chain as `C06_source_capstone_stream`, for the data codewords** (the packed bytes handed to `create_bytes`):
    they number exactly the ISO data capacity of (v, l), are bytes, and read back to the segments; from
    `C06_source_dataBitsSrc_eq` and `C06_codewords`. -/
theorem C06_source_capstone_codewords {v : Nat} (h1 : 1 ≤ v) (h40 : v ≤ 40) (l : Spec.Level) {segs : List Seg}
    (hvalid : ∀ s ∈ segs, s.Valid) {ps : List Spec.PSeg} (hps : toPSegs segs = some ps) {all : List Bool}
    (h : dataBitsSrc segsBits lengthInBitsSrc rsBlocksSrc v l.indicator segs = .ok all) :
    Spec.readStream v (writeBytes (packBytes all)) = some { segs := ps, tailConformant := true } ∧
    (packBytes all).length = Spec.dataCodewords v l ∧ ∀ b ∈ packBytes all, b < 256 := by
  rw [C06_source_dataBitsSrc_eq v l.indicator segs h1] at h
  exact C06_codewords h1 h40 l hvalid hps h

/-- the capstones at a concrete input, the ISO Annex I example: "01234567" in numeric mode at version 1-M.  The source-assembled
    `create_data` yields the 16 published data codewords and the ISO recogniser accepts the stream; the segment loop on the
    translated BitBuffer leaves the object (6 bytes, 41 bits) -/
example : (match dataBitsSrc segsBits lengthInBitsSrc rsBlocksSrc 1 Spec.Level.M.indicator
        [{ mode := 1, data := [48, 49, 50, 51, 52, 53, 54, 55] }] with
    | .ok all =>
        packBytes all == [0x10, 0x20, 0x0C, 0x56, 0x61, 0x80, 0xEC, 0x11, 0xEC, 0x11, 0xEC, 0x11, 0xEC, 0x11, 0xEC, 0x11] &&
        (Spec.readStream 1 all).isSome
    | .error _ => false) = true := by decide +kernel

example : segsLoopSrc (fun m => lengthInBitsSrc m 1) (fun l => match l with | [a] => alphaFind a | _ => .error .other)
      [{ mode := 1, data := [48, 49, 50, 51, 52, 53, 54, 55] }] bb_init = .ok ([0x10, 0x20, 0x0C, 0x56, 0x61, 0x80], 41) := by
  decide +kernel

end Capstone

/-- the Python functions this property's model mirrors have, in /repo's current working tree, exactly the normalised
    ASTs the model was written and validated against (fingerprints regenerated by T1 on every run) -/
theorem C06_source_fingerprints : QR.Gen.fp_C06 = QR.Pinned.fp_C06 := by decide

end QR.Props
