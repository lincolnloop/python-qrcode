import QR.Model.Render
import QR.Spec.Render
import QR.Proofs.Text
import QR.Proofs.Pinned
import QR.Proofs.SourceTieC15
/-
C15 - terminal renderings read back to the module matrix: the texts of `print_ascii` and `print_tty`, read by the independent
readers of `QR.Spec.Render`, give the framed symbol (`C15_ascii`, `C15_tty`); the tty check in front of them raises OSError
exactly for a tty variant on a stream that is not a tty (`C15_refuse_iff`), and what gets past it reads back (`C15_*_out`).
`C15_source_*`: bridges, capstones and the fingerprint obligation (the three kinds are explained at the head of Props/C02.lean).
-/
namespace QR.Props
open QR.Model

/-- kernel-checked instance of the read-back statement on a 3x3 matrix with border 1, all three variants -/
theorem C15_example :
    let M : Mods := [[true, false, true], [false, true, true], [true, true, false]]
    ((Spec.readHalfBlocks false (printAscii M 3 1 false false)).map (·.take 5) == some (Spec.frame M 3 1)) &&
    ((Spec.readHalfBlocks true (printAscii M 3 1 false true)).map (·.take 5) == some (Spec.frame M 3 1)) &&
    ((Spec.readHalfBlocks true (printAscii M 3 1 true false)).map (·.take 5) == some (Spec.frame M 3 1)) &&
    (Spec.readTty (printTty M 3) == some (Spec.frame M 3 1)) = true := by
  -- the escape literals first: the kernel would decode them again for every cell
  simp only [printAscii, printTty, Proofs.Text.esc_light, Proofs.Text.esc_dark, Proofs.Text.esc_reset,
    Proofs.Text.esc_bg232, Proofs.Text.esc_fg255]
  decide +kernel

/-- **C15 (print_ascii)**: for every n x n matrix, every border and all four (tty, invert) combinations, the half-block
text read back by the independent reader `Spec.readHalfBlocks` (SGR escapes stripped, lines split at newlines, each
glyph decoded to its upper/lower ink; ink = dark normally, ink = light when inverted, and tty forces invert) is
exactly the symbol framed by `border` light modules.  When the height n + 2*border is odd the last text line carries
a phantom lower half-row, which `take` drops.  Holds for n = 0 and border = 0 as well. -/
theorem C15_ascii (M : List (List Bool)) (n border : Nat)
    (hlen : M.length = n) (hrow : ∀ row ∈ M, row.length = n) (tty invert : Bool) :
    (Spec.readHalfBlocks (invert || tty) (printAscii M n border tty invert)).map (·.take (n + 2 * border))
      = some (Spec.frame M n border) :=
  Proofs.Text.readHalfBlocks_printAscii_any M n border tty invert

/-- every text line of `print_ascii` (escapes stripped) has exactly n + 2*border glyphs, and there are
ceil((n + 2*border) / 2) lines -/
theorem C15_ascii_lines (M : List (List Bool)) (n border : Nat) (tty invert : Bool) :
    let text := printAscii M n border tty invert
    let lines := Spec.splitLines (text.length + 1) (Spec.stripSgr (text.length + 1) text)
    lines.length = (n + 2 * border + 1) / 2 ∧ ∀ line ∈ lines, line.length = n + 2 * border := by
  intro text lines
  have h : lines = _ := Proofs.Text.splitLines_stripSgr_printAscii M n border tty invert
  rw [h, List.length_map, List.length_range]
  refine ⟨rfl, fun line hl => ?_⟩
  obtain ⟨k, _, rfl⟩ := List.mem_map.1 hl
  rw [Proofs.Text.asciiGlyphs, List.length_map, List.length_range]

/-- **C15 (print_tty)**: for every n x n matrix the colour-escape text read back by `Spec.readTty` (background 47 =
light, 40 = dark, two spaces per module) is exactly the symbol framed by one light module -/
theorem C15_tty (M : List (List Bool)) (n : Nat)
    (hlen : M.length = n) (hrow : ∀ row ∈ M, row.length = n) :
    Spec.readTty (printTty M n) = some (Spec.frame M n 1) :=
  Proofs.Text.readTty_printTty_any M n

/-- non-vacuity: instances of the general theorems on a concrete 2 x 2 symbol, with the expected matrix spelled out;
the reader is not constant (a different symbol reads back differently) and rejects foreign text -/
example : (Spec.readHalfBlocks true (printAscii [[true, false], [true, true]] 2 1 true false)).map (·.take 4) =
    some [[false, false, false, false], [false, true, false, false], [false, true, true, false],
      [false, false, false, false]] :=
  (C15_ascii [[true, false], [true, true]] 2 1 rfl (by decide) true false).trans (by decide)
example : Spec.readTty (printTty [[true, false], [true, true]] 2) =
    some [[false, false, false, false], [false, true, false, false], [false, true, true, false],
      [false, false, false, false]] :=
  (C15_tty [[true, false], [true, true]] 2 rfl (by decide)).trans (by decide)
example : Spec.readTty (printTty [[true]] 1) ≠ Spec.readTty (printTty [[false]] 1) := by
  rw [C15_tty [[true]] 1 rfl (by decide), C15_tty [[false]] 1 rfl (by decide)]; decide
example : Spec.readHalfBlocks false [65, 10] = none := by decide
example : Spec.readTty [65, 10] = none := by decide

/-- **C15 (tty check, refusal)**: the tty variants (`print_ascii(tty=True)`, `print_tty`) on a stream that is not a tty
raise OSError; the result carries no text at all (nothing is written) -/
theorem C15_refuse (M : Mods) (n border : Nat) (invert : Bool) :
    printAsciiOut M n border true invert false = .error .osError ∧ printTtyOut M n false = .error .osError :=
  ⟨rfl, rfl⟩

/-- **C15 (tty check, acceptance)**: `print_ascii` without `tty`, or on a tty, writes exactly `printAscii`;
`print_tty` on a tty writes exactly `printTty` -/
theorem C15_accept (M : Mods) (n border : Nat) (tty invert isatty : Bool) :
    ((tty = false ∨ isatty = true) →
      printAsciiOut M n border tty invert isatty = .ok (printAscii M n border tty invert)) ∧
    (isatty = true → printTtyOut M n true = .ok (printTty M n)) := by
  refine ⟨fun h => ?_, fun _ => rfl⟩
  rcases h with h | h <;> subst h
  · rfl
  · cases tty <;> rfl

/-- the only error of the tty check is OSError, and it occurs exactly for `tty` on a non-tty stream -/
theorem C15_refuse_iff (M : Mods) (n border : Nat) (tty invert isatty : Bool) :
    (printAsciiOut M n border tty invert isatty = .error .osError ↔ (tty = true ∧ isatty = false)) ∧
    (printTtyOut M n isatty = .error .osError ↔ isatty = false) := by
  cases tty <;> cases isatty <;> simp [printAsciiOut, printTtyOut]

/-- **C15 (print_ascii, end to end)**: whenever `print_ascii` (tty check included) returns a text, that text read back
by `Spec.readHalfBlocks` is the symbol framed by `border` light modules -/
theorem C15_ascii_out (M : List (List Bool)) (n border : Nat)
    (hlen : M.length = n) (hrow : ∀ row ∈ M, row.length = n) (tty invert isatty : Bool) (text : List Nat)
    (h : printAsciiOut M n border tty invert isatty = .ok text) :
    (Spec.readHalfBlocks (invert || tty) text).map (·.take (n + 2 * border)) = some (Spec.frame M n border) := by
  unfold printAsciiOut at h
  split at h
  · cases h
  · cases h; exact C15_ascii M n border hlen hrow tty invert

/-- **C15 (print_tty, end to end)**: whenever `print_tty` (tty check included) returns a text, it reads back to the
symbol framed by one light module -/
theorem C15_tty_out (M : List (List Bool)) (n : Nat)
    (hlen : M.length = n) (hrow : ∀ row ∈ M, row.length = n) (isatty : Bool) (text : List Nat)
    (h : printTtyOut M n isatty = .ok text) :
    Spec.readTty text = some (Spec.frame M n 1) := by
  unfold printTtyOut at h
  split at h
  · cases h
  · cases h; exact C15_tty M n hlen hrow

/-! ### Bridges (plugin `frag_b.py`): `QRCode.print_ascii`, `QRCode.print_tty`; the escape-sequence literals (`cps_*`) are bridged in
    QR/Proofs/SourceTieC15.lean. -/
section SourceTieB
open QR.Gen.Code QR.SourceTieB

/-- `range(-border, modcount + border)` -/
theorem C15_source_colRange_eq (modcount border : Nat) :
    pyRange (-(border : Int)) ((modcount : Int) + border) = (List.range (modcount + 2 * border)).map fun (j : Nat) => (j : Int) - border := by
  unfold pyRange
  have h : ((modcount : Int) + border - -(border : Int)).toNat = modcount + 2 * border := by omega
  rw [h]
  apply List.map_congr_left
  intro j _
  omega

/-- `range(-border, modcount + border, 2)` -/
theorem C15_source_rowRange_eq (modcount border : Nat) :
    pyRangeStep (-(border : Int)) ((modcount : Int) + border) 2 =
      (List.range ((modcount + 2 * border + 1) / 2)).map fun (k : Nat) => ((2 * k : Nat) : Int) - border := by
  unfold pyRangeStep
  have h : (((modcount : Int) + border - -(border : Int) + 2 - 1) / 2).toNat = (modcount + 2 * border + 1) / 2 := by omega
  rw [h]
  apply List.map_congr_left
  intro k _
  omega

theorem C15_source_printAscii_literals :
    print_ascii_default_stream = "sys.stdout" ∧ print_ascii_refuse_exc = "OSError" ∧
    print_ascii_compile_call = "self.make()" ∧ print_ascii_modcount = "self.modules_count" ∧
    print_ascii_code_bytes = [255, 223, 220, 219] ∧ print_ascii_codec = "cp437" ∧ print_ascii_tail = "out.flush()" :=
  ⟨rfl, rfl, rfl, rfl, rfl, rfl, rfl⟩

/-- the four cp437 bytes decode to the model's code points, in the same order -/
theorem C15_source_asciiCodes_src : print_ascii_code_points = asciiCodes := rfl

/-- the text of `print_ascii(out, tty, invert)`, for every matrix, size, border and flag combination -/
theorem C15_source_printAscii_src (M : Mods) (modcount border : Nat) (tty invert : Bool) :
    printAscii M modcount border tty invert =
      (let inv := print_ascii_invert tty invert
       print_ascii_text (getModule M modcount border inv) (print_ascii_codes inv) modcount border tty inv) := by
  unfold printAscii print_ascii_text
  simp only [print_ascii_invert_eq, print_ascii_codes_eq, C15_source_rowRange_eq, C15_source_colRange_eq, List.flatMap_map]
  apply flatMap_congr
  intro k _
  simp only [cps_bg232, cps_fg255, cps_reset, cps_nl, Proofs.Text.esc_bg232, Proofs.Text.esc_fg255, Proofs.Text.esc_reset,
    List.map_eq_flatMap, Nat.shiftLeft_eq, Nat.pow_one, Nat.mul_comm _ 2]
  cases tty <;> cases (invert) <;> simp

/-- `print_ascii` including its tty check -/
theorem C15_source_printAsciiOut_src (M : Mods) (modcount border : Nat) (tty invert isatty : Bool) :
    printAsciiOut M modcount border tty invert isatty =
      if print_ascii_refuse tty isatty then .error .osError else .ok (printAscii M modcount border tty invert) := rfl

theorem C15_source_printTty_literals :
    print_tty_default_stream = "sys.stdout" ∧ print_tty_refuse_exc = "OSError" ∧
    print_tty_compile_call = "self.make()" ∧ print_tty_modcount = "self.modules_count" ∧ print_tty_tail = "out.flush()" :=
  ⟨rfl, rfl, rfl, rfl, rfl⟩

/-- the text of `print_tty(out)`, for every matrix and size -/
theorem C15_source_printTty_src (M : Mods) (modcount : Nat) :
    printTty M modcount = print_tty_text (fun r c => (M.getD r []).getD c false) modcount := by
  unfold printTty print_tty_text sp
  simp only [cps_light, cps_reset_nl, cps_light_sp_dark, cps_light_sp_reset_nl, cps_sp2, Proofs.Text.esc_light,
    Proofs.Text.esc_dark, Proofs.Text.esc_reset, List.replicate, List.append_assoc, List.cons_append, List.nil_append]

/-- `print_tty` including its tty check -/
theorem C15_source_printTtyOut_src (M : Mods) (modcount : Nat) (isatty : Bool) :
    printTtyOut M modcount isatty =
      if print_tty_refuse isatty then .error .osError else .ok (printTty M modcount) := rfl

end SourceTieB

/-- `get_module` of print_ascii as it stands in the source (phantom half-row test, outside test) is the model's `getModule` -/
theorem C15_source_get_module (M : Model.Mods) (modcount border : Nat) (invert : Bool) (x y : Int) :
    Model.getModule M modcount border invert x y =
      if Gen.Code.get_module_phantom modcount border invert x y then Gen.Code.get_module_phantom_value
      else if Gen.Code.get_module_outside modcount x y then Gen.Code.get_module_outside_value
      else if (M.getD x.toNat []).getD y.toNat false then 1 else 0 := by
  simp only [Model.getModule, Gen.Code.get_module_phantom, Gen.Code.get_module_outside, Gen.Code.get_module_phantom_value,
    Gen.Code.get_module_outside_value, Bool.and_eq_true, Bool.or_eq_true, decide_eq_true_eq, and_assoc, ne_eq,
    Int.natCast_eq_zero]

/-! ### Capstones: the translated source itself satisfies the Spec statement, for all inputs; no `QR.Model` function occurs in a
    conclusion (`Model.Err.osError` is only the name of the exception). Covered:
    `qrcode/main.py:QRCode.print_ascii` - the tty check (`print_ascii_refuse`), `if tty: invert = True`
    (`print_ascii_invert`), the code table and its reversal (`print_ascii_codes`), both loops and the escape sequences
    (`print_ascii_text`), and the nested `get_module` through its translated tests `get_module_phantom` /
    `get_module_outside` and return values (its last branch `cast(int, self.modules[x][y])` is not translated as an
    expression - `Gen.Code.get_module_inside` records its text - and is written here as the list lookup);
    `qrcode/main.py:QRCode.print_tty` - the tty check (`print_tty_refuse`) and the text (`print_tty_text`, with
    `self.modules[r][c]` as the list lookup). NOT covered: the implicit `self.make()` of both (a callee, treated by
    `C16_implicit_compile`), the stream default `sys.stdout` and `out.flush()` (literals only); `modcount` is
    `self.modules_count`, here the side `n` of the matrix. -/
section Capstone
open QR.Gen.Code QR.SourceTieB

/-- **capstone, `qrcode/main.py:QRCode.print_ascii`** (text, after the tty check): for every `n × n` matrix, every border and all
    four (tty, invert) combinations, the text the translated code builds, read back by the independent reader
    `Spec.readHalfBlocks` (ink = light iff `invert || tty`), is exactly `Spec.frame M n border`; `take` drops the phantom
    lower half-row of an odd height. From `C15_source_printAscii_src`, `C15_source_get_module` and `C15_ascii`. -/
theorem C15_source_capstone_print_ascii (M : List (List Bool)) (n border : Nat)
    (hlen : M.length = n) (hrow : ∀ row ∈ M, row.length = n) (tty invert : Bool) :
    (Spec.readHalfBlocks (invert || tty)
      (print_ascii_text
        (fun x y => if get_module_phantom n border (print_ascii_invert tty invert) x y then get_module_phantom_value
          else if get_module_outside n x y then get_module_outside_value
          else if (M.getD x.toNat []).getD y.toNat false then 1 else 0)
        (print_ascii_codes (print_ascii_invert tty invert)) n border tty (print_ascii_invert tty invert))).map (·.take (n + 2 * border))
      = some (Spec.frame M n border) := by
  have hg : (fun x y => if get_module_phantom n border (print_ascii_invert tty invert) x y then get_module_phantom_value
          else if get_module_outside n x y then get_module_outside_value
          else if (M.getD x.toNat []).getD y.toNat false then 1 else 0) = getModule M n border (print_ascii_invert tty invert) := by
    funext x y
    exact (C15_source_get_module M n border (print_ascii_invert tty invert) x y).symm
  have h := C15_ascii M n border hlen hrow tty invert
  rw [C15_source_printAscii_src M n border tty invert] at h
  rw [hg]
  exact h

/-- **capstone, `qrcode/main.py:QRCode.print_tty`** (text, after the tty check): for every `n × n` matrix the colour-escape text
    the translated code builds, read back by `Spec.readTty`, is exactly the symbol framed by one light module.
    From `C15_source_printTty_src` and `C15_tty`. -/
theorem C15_source_capstone_print_tty (M : List (List Bool)) (n : Nat)
    (hlen : M.length = n) (hrow : ∀ row ∈ M, row.length = n) :
    Spec.readTty (print_tty_text (fun r c => (M.getD r []).getD c false) n) = some (Spec.frame M n 1) := by
  rw [← C15_source_printTty_src M n]
  exact C15_tty M n hlen hrow

/-- **capstone, `qrcode/main.py:QRCode.print_ascii`, end to end with its tty check**: the translated `if tty and not out.isatty():
    raise OSError` followed by the translated text - whenever that yields a text (no OSError), the text reads back to
    `Spec.frame M n border`; and OSError is raised exactly for `tty` on a non-tty stream.
    From `C15_source_capstone_print_ascii` (i.e. `C15_source_printAscii_src`, `C15_source_get_module`, `C15_ascii`);
    the shape of the check is that of `C15_source_printAsciiOut_src`. -/
theorem C15_source_capstone_print_ascii_out (M : List (List Bool)) (n border : Nat)
    (hlen : M.length = n) (hrow : ∀ row ∈ M, row.length = n) (tty invert isatty : Bool) (text : List Nat)
    (h : (if print_ascii_refuse tty isatty then (.error .osError : Except Err (List Nat)) else .ok
      (print_ascii_text
        (fun x y => if get_module_phantom n border (print_ascii_invert tty invert) x y then get_module_phantom_value
          else if get_module_outside n x y then get_module_outside_value
          else if (M.getD x.toNat []).getD y.toNat false then 1 else 0)
        (print_ascii_codes (print_ascii_invert tty invert)) n border tty (print_ascii_invert tty invert))) = .ok text) :
    (Spec.readHalfBlocks (invert || tty) text).map (·.take (n + 2 * border)) = some (Spec.frame M n border) ∧
      (print_ascii_refuse tty isatty = true ↔ (tty = true ∧ isatty = false)) := by
  refine ⟨?_, by cases tty <;> cases isatty <;> decide⟩
  split at h
  · cases h
  · cases h; exact C15_source_capstone_print_ascii M n border hlen hrow tty invert

/-- **capstone, `qrcode/main.py:QRCode.print_tty`, end to end with its tty check**: the translated `if not out.isatty(): raise
    OSError` followed by the translated text - whenever that yields a text, it reads back to the symbol framed by one
    light module; and OSError is raised exactly on a non-tty stream.
    From `C15_source_capstone_print_tty` (i.e. `C15_source_printTty_src`, `C15_tty`); the shape of the check is that of
    `C15_source_printTtyOut_src`. -/
theorem C15_source_capstone_print_tty_out (M : List (List Bool)) (n : Nat)
    (hlen : M.length = n) (hrow : ∀ row ∈ M, row.length = n) (isatty : Bool) (text : List Nat)
    (h : (if print_tty_refuse isatty then (.error .osError : Except Err (List Nat)) else .ok
      (print_tty_text (fun r c => (M.getD r []).getD c false) n)) = .ok text) :
    Spec.readTty text = some (Spec.frame M n 1) ∧ (print_tty_refuse isatty = true ↔ isatty = false) := by
  refine ⟨?_, by cases isatty <;> decide⟩
  split at h
  · cases h
  · cases h; exact C15_source_capstone_print_tty M n hlen hrow

/-- the capstones at a concrete 2 x 2 symbol: the translated `print_tty` text, and the translated `print_ascii` text with
    border 1 on a tty, read back to the framed symbol spelled out -/
example : Spec.readTty (print_tty_text (fun r c => (([[true, false], [true, true]] : List (List Bool)).getD r []).getD c false) 2) =
    some [[false, false, false, false], [false, true, false, false], [false, true, true, false],
      [false, false, false, false]] :=
  (C15_source_capstone_print_tty [[true, false], [true, true]] 2 rfl (by decide)).trans (by decide)

example : (Spec.readHalfBlocks true
      (print_ascii_text
        (fun x y => if get_module_phantom (2:Nat) (1:Nat) (print_ascii_invert true false) x y then get_module_phantom_value
          else if get_module_outside (2:Nat) x y then get_module_outside_value
          else if (([[true, false], [true, true]] : List (List Bool)).getD x.toNat []).getD y.toNat false then 1 else 0)
        (print_ascii_codes (print_ascii_invert true false)) (2:Nat) (1:Nat) true (print_ascii_invert true false))).map (·.take (2 + 2 * 1))
      = some [[false, false, false, false], [false, true, false, false], [false, true, true, false],
      [false, false, false, false]] :=
  (C15_source_capstone_print_ascii [[true, false], [true, true]] 2 1 rfl (by decide) true false).trans (by decide)
/-- the same two statements evaluated directly by the kernel on the translated definitions -/
example : Spec.readTty (print_tty_text (fun r c => (([[true, false], [true, true]] : List (List Bool)).getD r []).getD c false) 2) =
    some [[false, false, false, false], [false, true, false, false], [false, true, true, false],
      [false, false, false, false]] := by
  simp only [print_tty_text, cps_light, cps_reset_nl, cps_light_sp_dark, cps_light_sp_reset_nl, cps_sp2]
  decide +kernel
example : (Spec.readHalfBlocks true
      (print_ascii_text
        (fun x y => if get_module_phantom (2:Nat) (1:Nat) (print_ascii_invert true false) x y then get_module_phantom_value
          else if get_module_outside (2:Nat) x y then get_module_outside_value
          else if (([[true, false], [true, true]] : List (List Bool)).getD x.toNat []).getD y.toNat false then 1 else 0)
        (print_ascii_codes (print_ascii_invert true false)) (2:Nat) (1:Nat) true (print_ascii_invert true false))).map (·.take (2 + 2 * 1))
      = some [[false, false, false, false], [false, true, false, false], [false, true, true, false],
      [false, false, false, false]] := by
  simp only [print_ascii_text, cps_bg232, cps_fg255, cps_reset, cps_nl]
  decide +kernel

end Capstone

/-- the Python functions this property's model mirrors have, in /repo's current working tree, exactly the normalised
    ASTs the model was written and validated against (fingerprints regenerated by T1 on every run) -/
theorem C15_source_fingerprints : QR.Gen.fp_C15 = QR.Pinned.fp_C15 := rfl

end QR.Props
