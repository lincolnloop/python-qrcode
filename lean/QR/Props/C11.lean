import QR.Proofs.SourceTieObject
import QR.Model.QRObject
import QR.Proofs.Except
import QR.Proofs.History
import QR.Proofs.Pinned
import QR.Proofs.SourceTieMake
import QR.Proofs.CapstoneObject
/-
C11 - a compile depends only on current data and settings, never on history.
The argument goes in six steps, named B1..B6 here and in the sections of QR/Proofs/CachedCompile.lean (B1-B4: `makeImplS`,
`bestFitS`, `bestMaskS`, `makeS` against their cache-free counterparts) and QR/Proofs/History.lean (B5: every operation
preserves the invariants; B6: what is handed out, used by C18).  Main: `C11_make` (B4), `C11_history_free` (any operation sequence).
`C11_source_*`: bridges, capstones and the fingerprint obligation (the three kinds are explained at the head of Props/C02.lean).
-/
namespace QR.Props
open QR.Model

/-- the process-wide cache never holds anything but the blank of its key -/
def Global.Inv (g : Global) : Prop := ∀ v b, g.blanks.lookup v = some b → blank v = .ok b

theorem Global.inv_iff (g : Global) : Global.Inv g ↔ GInv g := Iff.rfl

theorem Global.inv_empty : Global.Inv { blanks := [] } := GInv.empty

/-- fetching a blank through the cache returns the blank and preserves the invariant -/
theorem C11_blank_cache (g : Global) (hg : Global.Inv g) (v : Nat) :
    (∀ g' b, blankG g v = .ok (g', b) → blank v = .ok b ∧ Global.Inv g') ∧
    (∀ e, blankG g v = .error e → blank v = .error e) := by
  obtain ⟨g0, hg0, h⟩ := blankG_eq hg v
  rw [h]
  cases blank v with
  | ok b =>
    refine ⟨fun g' b' h' => ?_, fun e h' => (nomatch h')⟩
    cases h'
    exact ⟨rfl, hg0⟩
  | error e => exact ⟨fun g' b' h' => (nomatch h'), fun e' h' => congrArg _ (Except.error.inj h')⟩

/-! ### the cached compile against the cache-free compile (proofs: QR/Proofs/CachedCompile.lean) -/

/-- **B1** `makeImplS` (blank cache + data cache) is the cache-free `makeImpl` on the cached / freshly encoded data -/
theorem C11_makeImpl (test : Bool) (mask : Nat) (g : Global) (hg : Global.Inv g) (s : QRState) :
    (∀ g' s', makeImplS test mask (g, s) = ((g', s'), .ok ()) →
      Global.Inv g' ∧
      ∃ data, (s.dataCache = some data ∨
                (s.dataCache = none ∧ createData s.version s.level s.dataList = .ok data)) ∧
        s'.dataCache = some data ∧ makeImpl s.version s.level test mask data = .ok s'.modules ∧
        s'.version = s.version ∧ s'.level = s.level ∧ s'.mask = s.mask ∧ s'.border = s.border ∧
        s'.boxSize = s.boxSize ∧ s'.dataList = s.dataList) ∧
    (∀ g' s' e, makeImplS test mask (g, s) = ((g', s'), .error e) →
      Global.Inv g' ∧
      (blank s.version = .error e ∨
       (∃ b, blank s.version = .ok b ∧
          ((s.dataCache = none ∧ createData s.version s.level s.dataList = .error e) ∨
           (∃ data, (s.dataCache = some data ∨
                      (s.dataCache = none ∧ createData s.version s.level s.dataList = .ok data)) ∧
              7 < mask ∧ e = .typeError ∧ makeImpl s.version s.level test mask data = .error e)))) ∧
      s'.version = s.version ∧ s'.level = s.level ∧ s'.mask = s.mask ∧ s'.border = s.border ∧
      s'.boxSize = s.boxSize ∧ s'.dataList = s.dataList) := by
  refine ⟨fun g' s' h => ?_, fun g' s' e h => ?_⟩
  · have st := makeImplS_spec hg h
    obtain ⟨_, d, _, hd, hmk, hcache⟩ := st.of_ok rfl
    have a2 := st.same
    exact ⟨st.ginv, d, dataIs_iff.2 hd, hcache, hmk, a2.version, a2.level, a2.mask, a2.border, a2.boxSize, a2.dataList⟩
  · have st := makeImplS_spec hg h
    have a2 := st.same
    refine ⟨st.ginv, ?_, a2.version, a2.level, a2.mask, a2.border, a2.boxSize, a2.dataList⟩
    rcases st.of_error (R.map_eq_error.2 rfl) with hb | ⟨b, hb, hd | ⟨d, hd, hmk⟩⟩
    · exact Or.inl hb
    · exact Or.inr ⟨b, hb, Or.inl (dataOf_eq_error.1 hd)⟩
    · -- with the blank at hand `makeImpl` fails on a mask above 7 only
      refine Or.inr ⟨b, hb, Or.inr ⟨d, dataIs_iff.2 hd, ?_⟩⟩
      have hmk' := hmk
      rw [makeImpl_eq, hb, R.bind_ok] at hmk'
      by_cases hgt : mask > 7
      · rw [if_pos hgt] at hmk'
        exact ⟨hgt, (Except.error.inj hmk').symm, hmk⟩
      · rw [if_neg hgt] at hmk'
        cases hmk'

/-- **B2** `bestFitS` returns what `bestFit` returns; it only ever assigns checked versions to `version` -/
theorem C11_bestFit (fuel start : Nat) (s : QRState) :
    (bestFitS fuel start s).2 = bestFit fuel start s.level s.dataList ∧
    (∃ v', (bestFitS fuel start s).1 = { s with version := v' } ∧ (v' = s.version ∨ (1 ≤ v' ∧ v' ≤ 40))) ∧
    (∀ v, (bestFitS fuel start s).2 = .ok v → (bestFitS fuel start s).1 = { s with version := v }) := by
  obtain ⟨h1, v', h2, h3, h4⟩ := bestFitS_spec fuel start s
  exact ⟨h1, ⟨v', h2, h3⟩, fun v h => (h4 v h).1 ▸ h2⟩

/-- **B3** with the data known (cached, or computable), `bestMaskS` is `bestMaskPattern` -/
theorem C11_bestMask (g : Global) (hg : Global.Inv g) (s : QRState) (data : List Nat)
    (hd : s.dataCache = some data ∨ (s.dataCache = none ∧ createData s.version s.level s.dataList = .ok data)) :
    (∀ g' s' m, bestMaskS (g, s) = ((g', s'), .ok m) →
        Global.Inv g' ∧ s'.dataCache = some data ∧ bestMaskPattern s.version s.level data = .ok m ∧
        s'.version = s.version ∧ s'.level = s.level ∧ s'.mask = s.mask ∧ s'.border = s.border ∧
        s'.boxSize = s.boxSize ∧ s'.dataList = s.dataList) ∧
    (∀ g' s' e, bestMaskS (g, s) = ((g', s'), .error e) →
        Global.Inv g' ∧ bestMaskPattern s.version s.level data = .error e ∧
        s'.version = s.version ∧ s'.level = s.level ∧ s'.mask = s.mask ∧ s'.border = s.border ∧
        s'.boxSize = s.boxSize ∧ s'.dataList = s.dataList) := by
  have hd := dataIs_iff.1 hd
  refine ⟨fun g' s' m h => ?_, fun g' s' e h => ?_⟩
  · have st := bestMaskS_spec hg h
    obtain ⟨_, d, _, hd', hm, hcache⟩ := st.of_ok rfl
    have a2 := st.same
    cases hd.symm.trans hd'
    exact ⟨st.ginv, hcache, hm, a2.version, a2.level, a2.mask, a2.border, a2.boxSize, a2.dataList⟩
  · have st := bestMaskS_spec hg h
    have a2 := st.same
    refine ⟨st.ginv, ?_, a2.version, a2.level, a2.mask, a2.border, a2.boxSize, a2.dataList⟩
    rcases st.of_error rfl with hb | ⟨_, _, hd' | ⟨d, hd', hp⟩⟩
    · exact bestMaskPattern_error_of_blank hb
    · cases hd.symm.trans hd'
    · cases hd.symm.trans hd'
      exact hp

/-- **B4 (main)**: whatever the two caches hold (subject to the invariant of the blank cache), `make(fit)` produces
    exactly what the cache-free compile of a fresh object with the same settings and data produces, or fails with the
    same error.  `version ≤ 40` is needed for the error clause only (see `C11_make_any`). -/
theorem C11_make (fit : Bool) (g : Global) (hg : Global.Inv g) (s : QRState) (hv : s.version ≤ 40) :
    match makeS fit (g, s) with
    | ((g', s'), .ok ()) => Global.Inv g' ∧
        ∃ m, compile { version := s.version, level := s.level, mask := s.mask, fit := fit } s.dataList =
          .ok (s'.version, m, s'.modules)
    | ((g', _), .error e) => Global.Inv g' ∧
        compile { version := s.version, level := s.level, mask := s.mask, fit := fit } s.dataList = .error e := by
  cases h : makeS fit (g, s) with
  | mk st r =>
    obtain ⟨g', s'⟩ := st
    cases r with
    | ok u =>
      exact ⟨(makeS_ok hg h).inv, (makeS_ok hg h).compiled⟩
    | error e =>
      exact ⟨(makeS_error hg h).inv, (makeS_error hg h).error hv⟩

/-- B4 for an arbitrary state: success is always that of the cache-free compile; a failure is a failure of the
    cache-free compile, of the same class as soon as `version ≤ 40` -/
theorem C11_make_any (fit : Bool) (g : Global) (hg : Global.Inv g) (s : QRState) :
    match makeS fit (g, s) with
    | ((g', s'), .ok ()) => Global.Inv g' ∧
        ∃ m, compile { version := s.version, level := s.level, mask := s.mask, fit := fit } s.dataList =
          .ok (s'.version, m, s'.modules)
    | ((g', _), .error e) => Global.Inv g' ∧
        (∃ e', compile { version := s.version, level := s.level, mask := s.mask, fit := fit } s.dataList = .error e') ∧
        (s.version ≤ 40 →
          compile { version := s.version, level := s.level, mask := s.mask, fit := fit } s.dataList = .error e) := by
  cases h : makeS fit (g, s) with
  | mk st r =>
    obtain ⟨g', s'⟩ := st
    cases r with
    | ok u =>
      exact ⟨(makeS_ok hg h).inv, (makeS_ok hg h).compiled⟩
    | error e =>
      exact ⟨(makeS_error hg h).inv, (makeS_error hg h).failed, (makeS_error hg h).error⟩

/-- the hypothesis of the error clause cannot be dropped: `blank` exists exactly for `version ≤ 40`, and `makeImpl`
    consults it before `create_data` while `compile` encodes first -/
theorem C11_blank_total (v : Nat) : (∃ b, blank v = .ok b) ↔ v ≤ 40 :=
  blank_ok_iff v

/-- **B5**: every operation preserves the invariant of the process-wide cache, and the range of the settings -/
theorem C11_step_inv (g : Global) (hg : Global.Inv g) (s : QRState) (op : Op) :
    Global.Inv (step (g, s) op).1.1 ∧ (s.version ≤ 40 → (step (g, s) op).1.2.version ≤ 40) ∧
      ((∀ m, s.mask = some m → m ≤ 7) → ∀ m, (step (g, s) op).1.2.mask = some m → m ≤ 7) := by
  obtain ⟨a1, a2, a3, _⟩ := step_inv g s op hg
  exact ⟨a1, a2, a3⟩

/-- **C11**: after ANY sequence of operations (adds, clears, failed and successful compiles, setter calls, caller
    writes into the matrix, compiles by other objects of the process), from any state with `version ≤ 40` (in
    particular any constructed object), the cache invariant holds and a compile yields exactly what a fresh object
    with the current settings and data yields, or fails with the same error -/
theorem C11_history_free (ops : List Op) (g0 : Global) (hg : Global.Inv g0) (s0 : QRState) (hv : s0.version ≤ 40) :
    match run (g0, s0) ops with
    | ((g, s), _) => Global.Inv g ∧ ∀ fit : Bool,
        match makeS fit (g, s) with
        | ((g', s'), .ok ()) => Global.Inv g' ∧
            ∃ m, compile { version := s.version, level := s.level, mask := s.mask, fit := fit } s.dataList =
              .ok (s'.version, m, s'.modules)
        | ((g', _), .error e) => Global.Inv g' ∧
            compile { version := s.version, level := s.level, mask := s.mask, fit := fit } s.dataList = .error e := by
  obtain ⟨a1, a2, _⟩ := run_inv ops g0 s0 hg
  exact ⟨a1, fun fit => C11_make fit _ a1 _ (a2 hv)⟩

/-- ... in particular from every constructed object and the empty process cache -/
theorem C11_history_free_constructed (version : Option Int) (level : Nat) (box border : Int) (mask : Option Int)
    (s0 : QRState) (hc : construct version level box border mask = .ok s0) (ops : List Op) :
    match run ({ blanks := [] }, s0) ops with
    | ((g, s), _) => Global.Inv g ∧ ∀ fit : Bool,
        match makeS fit (g, s) with
        | ((g', s'), .ok ()) => Global.Inv g' ∧
            ∃ m, compile { version := s.version, level := s.level, mask := s.mask, fit := fit } s.dataList =
              .ok (s'.version, m, s'.modules)
        | ((g', _), .error e) => Global.Inv g' ∧
            compile { version := s.version, level := s.level, mask := s.mask, fit := fit } s.dataList = .error e :=
  C11_history_free ops _ Global.inv_empty s0 (construct_inv hc).1.1

/-- from an arbitrary state (even `version > 40`, which no setter admits) only the error class may differ -/
theorem C11_history_free_any (ops : List Op) (g0 : Global) (hg : Global.Inv g0) (s0 : QRState) :
    match run (g0, s0) ops with
    | ((g, s), _) => Global.Inv g ∧ ∀ fit : Bool,
        match makeS fit (g, s) with
        | ((g', s'), .ok ()) => Global.Inv g' ∧
            ∃ m, compile { version := s.version, level := s.level, mask := s.mask, fit := fit } s.dataList =
              .ok (s'.version, m, s'.modules)
        | ((g', _), .error e) => Global.Inv g' ∧
            (∃ e', compile { version := s.version, level := s.level, mask := s.mask, fit := fit } s.dataList =
              .error e') ∧
            (s.version ≤ 40 →
              compile { version := s.version, level := s.level, mask := s.mask, fit := fit } s.dataList =
                .error e) := by
  obtain ⟨a1, _⟩ := run_inv ops g0 s0 hg
  exact ⟨a1, fun fit => C11_make_any fit _ a1 _⟩

/-! ### Bridge (`tools/translate.py` itself: a literal) for the calls of `make` -/

/-- `make` calls best_fit, makeImpl, best_mask_pattern, makeImpl - the calls the state machine composes -/
theorem C11_source_structure :
    Gen.Code.make_calls = ["self.best_fit", "self.makeImpl", "self.best_mask_pattern", "self.makeImpl"] :=
  rfl

/-! ### Bridges (plugin `frag_b.py`): `QRCode.make` and `QRCode.makeImpl` on the object, statement by statement.  Those that other
    proofs use as well are proved in QR/Proofs/SourceTieMake.lean. -/
section SourceTieB
open QR.Gen.Code

/-- which callee stands where -/
theorem C11_source_make_literals :
    make_fit_default = true ∧ make_reset_target = "self.data_cache" ∧ make_fit_call = "self.best_fit" ∧
    make_none_call = "self.makeImpl" ∧ make_none_mask_call = "self.best_mask_pattern()" ∧
    make_some_call = "self.makeImpl" :=
  ⟨rfl, rfl, rfl, rfl, rfl, rfl⟩

theorem C11_source_makeImpl_literals :
    makeImpl_cache_name = "precomputed_qr_blanks" ∧ makeImpl_hit_copy = "copy_2d_array" ∧
    makeImpl_copy_body = "[row[:] for row in x]" ∧ makeImpl_empty_fill = "None" ∧
    makeImpl_setup_calls = ["self.setup_position_probe_pattern", "self.setup_position_probe_pattern",
      "self.setup_position_probe_pattern", "self.setup_position_adjust_pattern", "self.setup_timing_pattern"] ∧
    makeImpl_store_value = "copy_2d_array(self.modules)" ∧ makeImpl_type_info_call = "self.setup_type_info" ∧
    makeImpl_type_number_call = "self.setup_type_number" ∧ makeImpl_create_call = "util.create_data" ∧
    (∀ v l, (makeImpl_create_args v l).2.2 = "self.data_list") ∧ makeImpl_map_call = "self.map_data" ∧
    (∀ m, (makeImpl_map_args m).1 = "self.data_cache") :=
  ⟨rfl, rfl, rfl, rfl, rfl, rfl, rfl, rfl, rfl, fun _ _ => rfl, rfl, fun _ => rfl⟩

/-- `make(fit)`: `self.data_cache = None` first; reading the `version` property (in the test when `fit` is false, in the
    call's argument otherwise) runs `best_fit()` when `_version is None`, so that the value read is never `None`
    (second argument of `make_fit_test`); then the re-fit from the current version; then `makeImpl(False, ...)` with the
    mask of `best_mask_pattern()` when `mask_pattern is None`, the configured mask otherwise -/
theorem C11_source_makeS_src (fit : Bool) (g : Global) (s : QRState) :
    makeS fit (g, s) =
      (let s := { s with dataCache := make_reset_value }
       let (s, r1) := if s.version = 0 then bestFitS 4 0 s else (s, .ok s.version)
       match r1 with
       | .error e => ((g, s), .error e)
       | .ok _ =>
         let (s, r2) := if make_fit_test fit false then bestFitS 4 (make_fit_start s.version) s else (s, .ok s.version)
         match r2 with
         | .error e => ((g, s), .error e)
         | .ok _ =>
           if make_mask_test s.mask.isNone then
             match bestMaskS (g, s) with
             | (st, .error e) => (st, .error e)
             | (st, .ok m) => makeImplS make_none_test_arg m st
           else makeImplS make_some_test_arg (make_some_mask_arg (s.mask.getD 0)) (g, s)) :=
  (QR.CapstoneE3.makeSrc_eq fit g s).symm

/-- the cache of blanks: the membership test, the key read on a hit and the key stored on a miss -/
theorem C11_source_blankG_src (g : Global) (version : Nat) :
    blankG g version =
      (if (g.blanks.lookup (makeImpl_cache_key version)).isSome then
        .ok (g, (g.blanks.lookup (makeImpl_hit_key version)).getD default)
      else do
        let b ← blank version
        pure ({ blanks := (makeImpl_store_key version, b) :: g.blanks }, b)) := by
  unfold blankG makeImpl_cache_key makeImpl_hit_key makeImpl_store_key
  cases h : g.blanks.lookup version <;> simp

/-- `makeImpl(test, mask_pattern)` on the object: every statement of the source, in order -/
theorem C11_source_makeImplS_src (test : Bool) (mask : Nat) (g : Global) (s : QRState) :
    makeImplS test mask (g, s) =
      (let n := makeImpl_modules_count s.version
       let s := { s with modulesCount := n }
       match blankG g s.version with
       | .error e => ((g, s), .error e)
       | .ok (g, b) =>
         let m := setupTypeInfo n s.level b (makeImpl_type_info_args test mask).1 (makeImpl_type_info_args test mask).2
         let m := if makeImpl_type_number_test s.version then setupTypeNumber n s.version m (makeImpl_type_number_arg test)
                  else m
         let s := { s with modules := m }
         match (if makeImpl_data_test s.dataCache.isNone then
                  createData (makeImpl_create_args s.version s.level).1 (makeImpl_create_args s.version s.level).2.1 s.dataList
                else .ok (s.dataCache.getD [])) with
         | .error e => ((g, s), .error e)
         | .ok d =>
           let s := { s with dataCache := some d }
           if (makeImpl_map_args mask).2 > 7 then ((g, s), .error .typeError)
           else ((g, { s with modules := mapData n m d (makeImpl_map_args mask).2 }), .ok ())) := by
  unfold makeImplS
  simp only [makeImpl_modules_count, makeImpl_type_info_args, makeImpl_type_number_test, makeImpl_type_number_arg,
    makeImpl_data_test, makeImpl_create_args, makeImpl_map_args, decide_eq_true_eq]
  cases hb : blankG g s.version with
  | error e => rfl
  | ok gb =>
    obtain ⟨g', b⟩ := gb
    cases hc : s.dataCache <;> simp <;> rfl

end SourceTieB

/-! ### Bridges (plugin `frag_d2.py`, `Gen.Code.ob_*`: the QRCode object's own methods translated statement by statement).  Those that
    other proofs use as well are proved in QR/Proofs/SourceTieObject.lean. -/
section SourceTieD2
open QR.Gen.Code QR.SourceTieD2

/-- texts recorded by the translator for the object methods of qrcode/main.py (raise messages, `add_data` branches,
    `__init__` defaults, class attributes) -/
theorem C11_source_literals_src :
    ob_check_box_size_raise0 = "ValueError(f'Invalid box size (was {size}, expected larger than 0)')" ∧
    ob_check_border_raise0 = "ValueError('Invalid border value (was %s, expected 0 or larger than that)' % size)" ∧
    ob_check_mask_pattern_raise0 = "TypeError(f'Invalid mask pattern (was {type(mask_pattern)}, expected int)')" ∧
    ob_check_mask_pattern_raise1 = "ValueError(f'Mask pattern should be in range(8) (got {mask_pattern})')" ∧
    ob_get_version_cast_type = "int" ∧ ob_add_data_optimize_default = 20 ∧
    ob_add_data_branches = ["self.data_list.append(data)",
      "self.data_list.extend(util.optimal_data_chunks(data, minimum=optimize))", "self.data_list.append(util.QRData(data))"] ∧
    ob_init_defaults = [("version", "None", "None"), ("error_correction", "constants.ERROR_CORRECT_M", "0"),
      ("box_size", "10", "10"), ("border", "4", "4"), ("image_factory", "None", "None"), ("mask_pattern", "None", "None")] ∧
    ob_class_attributes = ["_version: Optional[int] = None"] := ⟨rfl, rfl, rfl, rfl, rfl, rfl, rfl, rfl, rfl⟩

/-- `clear()` = `QRState.cleared` -/
theorem C11_source_cleared_src {F : Type} (fac : Option F) (s : QRState) : ob_clear (toOb fac s) = toOb fac s.cleared := rfl

/-- `clear()` does not depend on (and overwrites) the four attributes it assigns: on ANY object -/
theorem C11_source_clear_fields_src {D C F : Type} (o : ob_QR D C F) :
    ob_clear o = { o with modules := [[]], modules_count := 0, data_cache := none, data_list := [] } := rfl

/-- the last statement of `add_data` is `self.data_cache = None` (the Model's `.addData` / `.addSeg` reset the cache) -/
theorem C11_source_add_data_reset_src {F : Type} (fac : Option F) (s : QRState) :
    ob_add_data_reset (toOb fac s) = toOb fac { s with dataCache := none } := rfl

/-- **`add_data(data, optimize)`** on a byte string = the Model's `.addData`: with `optimize` truthy the chunks of
    `util.optimal_data_chunks(data, minimum=optimize)` are appended, else the single `util.QRData(data)`; then
    `self.data_cache = None` -/
theorem C11_source_addData_src {F : Type} (fac : Option F) (g : Global) (s : QRState) (d : Bytes) (n : Nat) :
    Agrees fac g s
      (.ok (ob_add_data (fun d k => optimalDataChunks d k.toNat) (fun d => ({ mode := optimalMode d, data := d } : Seg))
        (toOb fac s) (.inr d) (n : Int)))
      (step (g, s) (.addData d n)) :=
  QR.SourceTieD2.addData_src fac g s d n

/-- `add_data(data)` on a `QRData` object = the Model's `.addSeg`: the object itself is appended (whatever `optimize`),
    then `self.data_cache = None` -/
theorem C11_source_addSeg_src {F X : Type} (fac : Option F) (g : Global) (s : QRState) (x : Seg) (k : Int)
    (chunks : X → Int → List Seg) (mk : X → Seg) :
    Agrees fac g s (.ok (ob_add_data chunks mk (toOb fac s) (.inl x) k)) (step (g, s) (.addSeg x)) :=
  QR.SourceTieD2.addSeg_src fac g s x k chunks mk

/-- `clear()` as an operation -/
theorem C11_source_stepClear_src {F : Type} (fac : Option F) (g : Global) (s : QRState) :
    Agrees fac g s (.ok (ob_clear (toOb fac s))) (step (g, s) .clear) :=
  QR.SourceTieD2.stepClear_src fac g s

/-- **the tail of `__init__`**, for arguments of ANY type and any `util.check_version`: whenever the constructor returns an
    object, it has stored the `image_factory` argument, that argument passed `assert issubclass(image_factory, BaseImage)`
    (if not `None`), and the last statement `self.clear()` has run: `modules == [[]]`, `modules_count == 0`,
    `data_cache is None`, `data_list == []` -/
theorem C11_source_init_cleared_src {D C F : Type} (cv : ob_Val → Except String Unit) (issub : F → Bool) (self0 : ob_QR D C F)
    (version level box border : ob_Val) (fac : Option F) (mask : ob_Val) (o : ob_QR D C F)
    (h : ob_init cv issub self0 version level box border fac mask = .ok o) :
    o.modules = [[]] ∧ o.modules_count = 0 ∧ o.data_cache = none ∧ o.data_list = [] ∧ o.image_factory = fac ∧
      (∀ f, fac = some f → issub f = true) := by
  simp only [ob_init, Except.bind, ob_set_border, ob_set_mask_pattern] at h
  repeat' split at h
  all_goals (first | (cases h; done) | skip)
  all_goals (injection h with h; subst h; simp_all [ob_clear])

/-- reading `self.version`: `best_fit()` runs first when `_version is None`, and the value read afterwards is the stored
    attribute (not what `best_fit` returned) - the first line of the Model's `makeS` -/
theorem C11_source_getVersion_src {F : Type} (fac : Option F) (g : Global) (s : QRState) :
    ob_get_version (bestFitOb fac) g (toOb fac s) =
      (let p := if s.version = 0 then bestFitS 4 0 s else (s, .ok s.version)
       ((g, toOb fac p.1), liftR (p.2.map fun _ => (toOb fac p.1)._version))) := by
  by_cases h : s.version = 0
  · simp only [ob_get_version, bestFitOb, ofOb_toOb, h, if_true]
    have : (toOb fac s)._version = .none := by simp [toOb, h]
    simp only [this, ob_py_is_none, if_true]
    cases (bestFitS 4 0 s).2 <;> simp [liftR, Except.map]
  · have : (toOb fac s)._version = .int s.version := by simp [toOb, h]
    simp [ob_get_version, this, ob_py_is_none, h, liftR, Except.map]

end SourceTieD2

/-! ### Capstones: the translated `make` / `clear` / `add_data` themselves are history free against the cache-free reference compile. -/
section Capstone
open QR.Gen.Code QR.SourceTieD2 QR.CapstoneE3

/-- **capstone, `main.py:QRCode.make(fit)`** as assembled from its translated pieces (`CapstoneE3.makeSrc` = verbatim the right-hand
    side of `C11_source_makeS_src`: `self.data_cache = None`, the `version` property read, the re-fit, the mask branch).  Partly
    translated chain: the callees `best_fit`, `best_mask_pattern`, `makeImpl` are the Model's `bestFitS`, `bestMaskS`, `makeImplS`
    (tied to the source by their own bridges `C11_source_*`, e.g. `C11_source_makeImplS_src`, `C11_source_blankG_src`, and by
    `C07_source_*` / `C05_source_*`); the capstones about `make` in Props/C01.lean and Props/C03.lean refer to this description.
    Whatever the two caches hold (blank-cache invariant `Global.Inv`, `version ≤ 40`), it produces exactly what the cache-free
    reference compile (`Model.compile`, the property's reference: a fresh object with the same settings and data) produces, or
    fails with the same error.  From `C11_source_makeS_src`, `C11_make`. -/
theorem C11_source_capstone_make (fit : Bool) (g : Global) (hg : Global.Inv g) (s : QRState) (hv : s.version ≤ 40) :
    match makeSrc fit g s with
    | ((g', s'), .ok ()) => Global.Inv g' ∧
        ∃ m, compile { version := s.version, level := s.level, mask := s.mask, fit := fit } s.dataList =
          .ok (s'.version, m, s'.modules)
    | ((g', _), .error e) => Global.Inv g' ∧
        compile { version := s.version, level := s.level, mask := s.mask, fit := fit } s.dataList = .error e := by
  rw [makeSrc_eq]; exact C11_make fit g hg s hv

/-- **capstone (history-freedom ingredient), `main.py:QRCode.clear`** (translated `ob_clear`) followed by `make(fit)` (`makeSrc`, as
    above): the object after `clear()` is the object of a state on which a compile yields exactly what the reference compile of
    the SAME settings with NO data yields - nothing of the earlier data, matrix or cache survives.
    From `C11_source_cleared_src`, `C11_source_makeS_src`, `C11_make`. -/
theorem C11_source_capstone_clear {F : Type} (fac : Option F) (g : Global) (hg : Global.Inv g) (s : QRState)
    (hv : s.version ≤ 40) (fit : Bool) :
    ∃ s', ob_clear (toOb fac s) = toOb fac s' ∧
      match makeSrc fit g s' with
      | ((g', s''), .ok ()) => Global.Inv g' ∧
          ∃ m, compile { version := s.version, level := s.level, mask := s.mask, fit := fit } [] =
            .ok (s''.version, m, s''.modules)
      | ((g', _), .error e) => Global.Inv g' ∧
          compile { version := s.version, level := s.level, mask := s.mask, fit := fit } [] = .error e := by
  refine ⟨s.cleared, C11_source_cleared_src fac s, ?_⟩
  have h := C11_source_capstone_make fit g hg s.cleared (by simpa [QRState.cleared] using hv)
  simpa [QRState.cleared] using h

/-- **capstone (history-freedom ingredient), `main.py:QRCode.add_data(bytes, optimize)`** (translated `ob_add_data`; the callees
    `util.optimal_data_chunks` / `util.QRData` are the explicit parameters `Model.optimalDataChunks` / the Model segment
    constructor, tied to the source in C10) followed by `make(fit)` (`makeSrc`): the object after `add_data` is the object of a
    state `s'` with an EMPTY data cache, on which a compile yields exactly what the reference compile of the same settings and
    the new data list yields - a previously cached stream cannot leak into the result.
    From `C11_source_addData_src`, `C11_source_makeS_src`, `C11_make`. -/
theorem C11_source_capstone_add_data {F : Type} (fac : Option F) (g : Global) (hg : Global.Inv g) (s : QRState)
    (hv : s.version ≤ 40) (d : Bytes) (n : Nat) (fit : Bool) :
    ∃ s', ob_add_data (fun d k => optimalDataChunks d k.toNat) (fun d => ({ mode := optimalMode d, data := d } : Seg))
        (toOb fac s) (.inr d) (n : Int) = toOb fac s' ∧ s'.dataCache = none ∧
      match makeSrc fit g s' with
      | ((g', s''), .ok ()) => Global.Inv g' ∧
          ∃ m, compile { version := s.version, level := s.level, mask := s.mask, fit := fit } s'.dataList =
            .ok (s''.version, m, s''.modules)
      | ((g', _), .error e) => Global.Inv g' ∧
          compile { version := s.version, level := s.level, mask := s.mask, fit := fit } s'.dataList = .error e := by
  have ha := C11_source_addData_src fac g s d n
  simp only [Agrees, step] at ha
  refine ⟨_, Except.ok.inj ha.1, rfl, ?_⟩
  exact C11_source_capstone_make fit g hg { s with dataList := s.dataList ++ addData d n, dataCache := none } hv

/-! #### operation sequences executed by the translated code (`QR.CapstoneE5.stepSrc` / `runSrc`) -/
section CapstoneSeq
open QR.CapstoneE5

/-- **capstone (C11 itself), ANY sequence of operations executed by the TRANSLATED code** (`CapstoneE5.runSrc`, the fold of
    `stepSrc`, whose docstring in QR/Proofs/CapstoneObject.lean says by which translated method each operation is executed; the
    only Model fallback is `.mutateModules`, which is the CALLER writing into `qr.modules`, not library code), started on the object
    of any state with `version ≤ 40` and a blank cache satisfying the invariant: the run ends on the object of a state `s`
    (unique: `toOb_injective`) with the cache invariant, and `make(fit)` (`makeSrc`, the translated `make`; callees `best_fit`,
    `best_mask_pattern`, `makeImpl` = the Model's `bestFitS`, `bestMaskS`, `makeImplS`) then yields exactly what the cache-free
    reference compile (`Model.compile`) of a fresh object with the same settings and data yields, or the same error.
    From `CapstoneE5.runSrc_sim_gen` (induction over the single-step bridges `C11_source_*`, `C18_source_*`), `C11_source_makeS_src`,
    `C11_history_free`.  Hypotheses of the `make_image` bridge kept: no embedded image in `kwargs`, or level H throughout (`hk`,
    `CapstoneE5.EmbeddedOK`), the factory argument a subclass of `BaseImage` (`hf`); the arguments of the setters are integers
    or `None` (by the type of `Model.Op`). -/
theorem C11_source_capstone_history_free {F K : Type} (E : ImgEnv F K)
    (hf : ∀ f, E.arg = some f → E.issub f = true) (fac : Option F) (ops : List Op) (g0 : Global) (hg : Global.Inv g0)
    (s0 : QRState) (hv : s0.version ≤ 40) (hk : EmbeddedOK E s0 ops) :
    ∃ g s outs, runSrc E (g0, toOb fac s0) ops = ((g, toOb fac s), outs) ∧ Global.Inv g ∧ ∀ fit : Bool,
      match makeSrc fit g s with
      | ((g', s'), .ok ()) => Global.Inv g' ∧
          ∃ m, compile { version := s.version, level := s.level, mask := s.mask, fit := fit } s.dataList =
            .ok (s'.version, m, s'.modules)
      | ((g', _), .error e) => Global.Inv g' ∧
          compile { version := s.version, level := s.level, mask := s.mask, fit := fit } s.dataList = .error e := by
  have h := C11_history_free ops g0 hg s0 hv
  refine ⟨_, _, _, runSrc_sim_gen E hf fac g0 hg s0 ops hk, h.1, fun fit => ?_⟩
  rw [makeSrc_eq]
  exact h.2 fit

/-- **capstone, the same from ANY state** (even `version > 40`, which no setter accepts): success is always that of the
    reference compile; a failure is a failure of the reference compile, of the same class as soon as `version ≤ 40`.
    From `CapstoneE5.runSrc_sim_gen`, `C11_source_makeS_src`, `C11_history_free_any`. -/
theorem C11_source_capstone_history_free_any {F K : Type} (E : ImgEnv F K)
    (hf : ∀ f, E.arg = some f → E.issub f = true) (fac : Option F) (ops : List Op) (g0 : Global) (hg : Global.Inv g0)
    (s0 : QRState) (hk : EmbeddedOK E s0 ops) :
    ∃ g s outs, runSrc E (g0, toOb fac s0) ops = ((g, toOb fac s), outs) ∧ Global.Inv g ∧ ∀ fit : Bool,
      match makeSrc fit g s with
      | ((g', s'), .ok ()) => Global.Inv g' ∧
          ∃ m, compile { version := s.version, level := s.level, mask := s.mask, fit := fit } s.dataList =
            .ok (s'.version, m, s'.modules)
      | ((g', _), .error e) => Global.Inv g' ∧
          (∃ e', compile { version := s.version, level := s.level, mask := s.mask, fit := fit } s.dataList =
            .error e') ∧
          (s.version ≤ 40 →
            compile { version := s.version, level := s.level, mask := s.mask, fit := fit } s.dataList = .error e) := by
  have h := C11_history_free_any ops g0 hg s0
  refine ⟨_, _, _, runSrc_sim_gen E hf fac g0 hg s0 ops hk, h.1, fun fit => ?_⟩
  rw [makeSrc_eq]
  exact h.2 fit

/-- **capstone, from the constructor on**: whenever the translated `main.py:QRCode.__init__` (`ob_init`, with `util.check_version`
    = `checkVersionOb`, integer / `None` arguments, `image_factory` `None` or a subclass of `BaseImage`) returns an object `o`,
    every sequence of operations executed by the translated code on `o`, from the empty process cache, ends on the object of a
    state on which `make(fit)` (`makeSrc`) yields exactly what the reference compile of the same settings and data yields, or
    the same error.  From `SourceTieD2.construct_src` (= `C18_source_construct_src`),
    `C11_source_capstone_history_free`. -/
theorem C11_source_capstone_history_free_constructed {F K : Type} (E : ImgEnv F K)
    (hf : ∀ f, E.arg = some f → E.issub f = true) (fac : Option F) (hfac : ∀ f, fac = some f → E.issub f = true)
    (self0 : ob_QR Seg (List Nat) F) (version : Option Int) (level : Nat) (box border : Int) (mask : Option Int)
    (o : ob_QR Seg (List Nat) F)
    (hc : ob_init checkVersionOb E.issub self0 (optVal version) (.int level) (.int box) (.int border) fac (optVal mask) = .ok o)
    (ops : List Op) (hk : E.embedded = false ∨ (level = 2 ∧ ∀ l, Op.setLevel l ∈ ops → l = 2)) :
    ∃ g s outs, runSrc E ({ blanks := [] }, o) ops = ((g, toOb fac s), outs) ∧ Global.Inv g ∧ ∀ fit : Bool,
      match makeSrc fit g s with
      | ((g', s'), .ok ()) => Global.Inv g' ∧
          ∃ m, compile { version := s.version, level := s.level, mask := s.mask, fit := fit } s.dataList =
            .ok (s'.version, m, s'.modules)
      | ((g', _), .error e) => Global.Inv g' ∧
          compile { version := s.version, level := s.level, mask := s.mask, fit := fit } s.dataList = .error e := by
  obtain ⟨s0, hcon, rfl⟩ := (init_eq_ok E.issub fac hfac self0 version level box border mask o).1 hc
  exact C11_source_capstone_history_free E hf fac ops _ Global.inv_empty s0 (construct_inv hcon).1.1
    (hk.imp id fun h => ⟨(construct_level hcon).trans h.1, h.2⟩)

/-- instance: the translated code runs `add_data(b"123", optimize=0)`, `clear()`, `version = 5`, `mask_pattern = 3` on `QRCode()` and
    ends (evaluated by `rfl`) on the object of the default state with version 5, mask 3 and NO data; by
    `C11_source_capstone_history_free` a `make(fit)` there is the reference compile of exactly these settings and data -/
example :
    (runSrc exampleEnv ({ blanks := [] }, toOb none exampleState)
      [.addData [49, 50, 51] 0, .clear, .setVersion (some 5), .setMask (some 3)]).1.2 =
      toOb none { exampleState with version := 5, mask := some 3 } ∧
    ∃ g s outs, runSrc exampleEnv ({ blanks := [] }, toOb none exampleState)
      [.addData [49, 50, 51] 0, .clear, .setVersion (some 5), .setMask (some 3)] = ((g, toOb none s), outs) ∧
      Global.Inv g ∧ ∀ fit : Bool,
        match QR.CapstoneE3.makeSrc fit g s with
        | ((g', s'), .ok ()) => Global.Inv g' ∧
            ∃ m, compile { version := s.version, level := s.level, mask := s.mask, fit := fit } s.dataList =
              .ok (s'.version, m, s'.modules)
        | ((g', _), .error e) => Global.Inv g' ∧
            compile { version := s.version, level := s.level, mask := s.mask, fit := fit } s.dataList = .error e :=
  ⟨rfl, C11_source_capstone_history_free exampleEnv (by intro f h; cases h)
    (none : Option Unit) [.addData [49, 50, 51] 0, .clear, .setVersion (some 5), .setMask (some 3)]
    { blanks := [] } Global.inv_empty exampleState (by decide) (Or.inl rfl)⟩

end CapstoneSeq
end Capstone

/-- the Python functions this property's model mirrors have, in /repo's current working tree, exactly the normalised
    ASTs the model was written and validated against (fingerprints regenerated by T1 on every run) -/
theorem C11_source_fingerprints : QR.Gen.fp_C11 = QR.Pinned.fp_C11 := by decide

end QR.Props
