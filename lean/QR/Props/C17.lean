import QR.Model.Cli
import QR.Proofs.SegShape
import QR.Proofs.Pinned
import QR.Proofs.SourceTieC17
import QR.Proofs.SourceTieIndex
/-
C17 - the `qr` command: decision logic (payload, options, sink independence, rejection).
The image/ASCII output then decodes to the payload by C01 + C12/C13/C15 (renderers) - composed by the oracle sweep.
All of `C17_options` … `C17_sink_independent` are read off the decision tree `cli_cases`.
`C17_source_*`: bridges and the fingerprint obligation (explained at the head of Props/C02.lean); no capstone (runtime-bound).
-/
namespace QR.Props
open QR.Model

/-- **options**: the threshold handed to add_data is the given one, or the library default 20 -/
theorem C17_optimize (i : CliInput) : segsOf i = addData (i.arg.getD i.stdin) (i.optimize.getD 20) := rfl

/-- what `drawerAliases` is on the shipped tables: only the two standalone SVG factories accept drawers, and only
    their three aliases (tables regenerated from the source) -/
theorem C17_tables :
    drawerAliases none = [] ∧ drawerAliases (some "pil") = [] ∧ drawerAliases (some "png") = [] ∧
    drawerAliases (some "svg-fragment") = [] ∧
    drawerAliases (some "svg") = ["circle", "gapped-circle", "gapped-square"] ∧
    drawerAliases (some "svg-path") = ["circle", "gapped-circle", "gapped-square"] := by decide

/-- **options**: the level letters map to the ISO levels; tables regenerated from the source -/
theorem C17_levels : Gen.CLI_LEVELS.lookup "L" = some Gen.ERROR_CORRECT_L ∧ Gen.CLI_LEVELS.lookup "M" = some Gen.ERROR_CORRECT_M ∧
    Gen.CLI_LEVELS.lookup "Q" = some Gen.ERROR_CORRECT_Q ∧ Gen.CLI_LEVELS.lookup "H" = some Gen.ERROR_CORRECT_H := by decide

/-- the decision tree of `cli`, leaf by leaf with the tests that lead there; the theorems below are read off from it -/
private theorem cli_cases (i : CliInput) :
    (cli i = .fail ∧ (Gen.CLI_LEVELS.lookup i.level = none ∨ factoryOK i = false ∨ drawerOK i = false)) ∨
    (∃ l, Gen.CLI_LEVELS.lookup i.level = some l ∧ factoryOK i = true ∧ drawerOK i = true ∧
      ((∃ path, i.output = some path ∧ cli i = .image i.factory i.drawer l (segsOf i) (.file path)) ∨
       (i.output = none ∧ (i.factory.isNone && (i.stdoutIsTty || i.ascii)) = true ∧
          cli i = .ascii (!i.ascii) l (segsOf i)) ∨
       (i.output = none ∧ (i.factory.isNone && (i.stdoutIsTty || i.ascii)) = false ∧
          cli i = .image i.factory i.drawer l (segsOf i) .stdout))) := by
  cases hl : Gen.CLI_LEVELS.lookup i.level with
  | none => left; simp [cli, hl]
  | some l =>
    cases hf : factoryOK i with
    | false => left; simp [cli, hl, hf]
    | true =>
      cases hd : drawerOK i with
      | false => left; simp [cli, hl, hf, hd]
      | true =>
        right
        refine ⟨l, rfl, rfl, rfl, ?_⟩
        cases ho : i.output with
        | some path => left; exact ⟨path, rfl, by simp [cli, hl, hf, hd, ho]⟩
        | none =>
          right
          cases hc : (i.factory.isNone && (i.stdoutIsTty || i.ascii)) with
          | true => left; exact ⟨rfl, rfl, by simp only [cli, hl, hf, hd, ho, hc]; simp⟩
          | false => right; exact ⟨rfl, rfl, by simp only [cli, hl, hf, hd, ho, hc]; simp⟩

/-- **options**: what reaches the library is exactly what was given on the command line -/
theorem C17_options (i : CliInput) :
    (∀ f d l segs s, cli i = .image f d l segs s →
      Gen.CLI_LEVELS.lookup i.level = some l ∧ f = i.factory ∧ d = i.drawer ∧ segs = segsOf i) ∧
    (∀ tty l segs, cli i = .ascii tty l segs →
      Gen.CLI_LEVELS.lookup i.level = some l ∧ tty = (!i.ascii) ∧ segs = segsOf i) := by
  rcases cli_cases i with ⟨h, _⟩ | ⟨l, hl, _, _, ⟨path, _, h⟩ | ⟨_, _, h⟩ | ⟨_, _, h⟩⟩
  all_goals rw [h]
  · exact ⟨nofun, nofun⟩
  · exact ⟨fun _ _ _ _ _ e => by cases e; exact ⟨hl, rfl, rfl, rfl⟩, nofun⟩
  · exact ⟨nofun, fun _ _ _ e => by cases e; exact ⟨hl, rfl, rfl⟩⟩
  · exact ⟨fun _ _ _ _ _ e => by cases e; exact ⟨hl, rfl, rfl, rfl⟩, nofun⟩

/-- **payload**: the segments handed to the encoder carry exactly the argument, or else exactly standard input -/
theorem C17_payload (i : CliInput) :
    (∀ tty l segs, cli i = .ascii tty l segs → segs.flatMap (·.data) = i.arg.getD i.stdin) ∧
    (∀ f d l segs s, cli i = .image f d l segs s → segs.flatMap (·.data) = i.arg.getD i.stdin) := by
  refine ⟨?_, ?_⟩
  · intro tty l segs h
    rw [((C17_options i).2 tty l segs h).2.2]; exact addData_flatMap_data _ _
  · intro f d l segs s h
    rw [((C17_options i).1 f d l segs s h).2.2.2]; exact addData_flatMap_data _ _

/-- **rejection**: an unknown level letter, an unusable factory or a drawer the factory does not have: failure -/
theorem C17_reject (i : CliInput)
    (h : Gen.CLI_LEVELS.lookup i.level = none ∨ factoryOK i = false ∨ drawerOK i = false) : cli i = .fail := by
  rcases cli_cases i with ⟨h', _⟩ | ⟨l, hl, hf, hd, _⟩
  · exact h'
  · rw [hl, hf, hd] at h; simp at h

/-- ... and these are the only failures -/
theorem C17_fail_iff (i : CliInput) :
    cli i = .fail ↔
      (Gen.CLI_LEVELS.lookup i.level = none ∨ factoryOK i = false ∨ drawerOK i = false) := by
  refine ⟨fun h => ?_, C17_reject i⟩
  rcases cli_cases i with ⟨_, h'⟩ | ⟨l, _, _, _, ⟨path, _, h'⟩ | ⟨_, _, h'⟩ | ⟨_, _, h'⟩⟩
  · exact h'
  all_goals rw [h'] at h; cases h

/-- **sink independence**: when an image is written, `--output` only changes where it goes -/
theorem C17_sink_independent (i : CliInput) (path : String) (f d l segs)
    (h : cli { i with output := some path } = .image f d l segs (.file path))
    (hc : i.factory.isSome ∨ (i.stdoutIsTty = false ∧ i.ascii = false)) :
    cli { i with output := none } = .image f d l segs .stdout := by
  have hcond : ((i.factory.isNone && (i.stdoutIsTty || i.ascii))) = false := by
    rcases hc with hc | ⟨h1, h2⟩
    · cases hf : i.factory with
      | none => rw [hf] at hc; cases hc
      | some _ => rfl
    · rw [h1, h2]; simp
  rcases cli_cases { i with output := some path } with ⟨h', _⟩ | ⟨_, _, hf, hd, _⟩
  · rw [h'] at h; cases h
  · obtain ⟨hl0, hf0, hd0, hs0⟩ := (C17_options _).1 f d l segs _ h
    subst hf0 hd0 hs0
    -- none of the three tests looks at `output`: each holds of `{ i with output := none }` as it stands
    have hl' : Gen.CLI_LEVELS.lookup i.level = some l := hl0
    have hf' : factoryOK { i with output := none } = true := hf
    have hd' : drawerOK { i with output := none } = true := hd
    simp only [cli, hl', hf', hd', hcond]
    rfl

/-! ### Bridges (plugin `frag_c.py`, `Gen.Code.cli_*`): `console_scripts.main` and its tables; the bridge for `main()` itself is
    proved in QR/Proofs/SourceTieC17.lean. -/
section SourceTieT
open QR.Gen.Code QR.SourceTieT

/-- `default_factories`, read from the AST, is the table the Model uses (gen_tables imports the module at run time) -/
theorem C17_source_cli_default_factories_src : Gen.CLI_FACTORIES = cli_default_factories :=
  rfl

/-- the `error_correction` dict of the source (key order of the source) and the Model's table (sorted) agree on every key -/
theorem C17_source_cli_error_correction_src (s : String) : Gen.CLI_LEVELS.lookup s = cli_error_correction.lookup s :=
  QR.SourceTieT.cli_error_correction_src s

/-- optparse accepts the level letter iff the Model's table has it -/
theorem C17_source_cli_choices_src (s : String) : cli_choices_error_correction.contains s = (Gen.CLI_LEVELS.lookup s).isSome :=
  QR.SourceTieT.cli_choices_src s

/-- the option table: option strings, `dest`, action, type and default of every `parser.add_option` call, in order; these are
    the fields of `Model.CliInput` (factory, drawer, optimize, level, ascii, output) with their types and defaults -/
theorem C17_source_cli_options_src :
    cli_options.map (fun o => (o.names, o.dest, o.action, o.type, o.default)) =
      [(["--factory"], "factory", "store", "string", "None"),
       (["--factory-drawer"], "factory_drawer", "store", "string", "None"),
       (["--optimize"], "optimize", "store", "int", "None"),
       (["--error-correction"], "error_correction", "store", "choice", "'M'"),
       (["--ascii"], "ascii", "store_true", "", "None"),
       (["--output"], "output", "store", "string", "None")] ∧
    (cli_default_factory, cli_default_factory_drawer, cli_default_optimize, cli_default_error_correction, cli_default_ascii,
      cli_default_output) = (none, none, none, "M", false, none) ∧
    cli_add_data_optimize_default = 20 ∧ cli_print_ascii_tty_default = false :=
  ⟨rfl, rfl, rfl, rfl⟩

/-- **console_scripts.main** as it stands in the source = `Model.cli`, for every input, every list of positional arguments and
    every `str.encode`.  Hypotheses: the Model's `arg` is the encoded first argument; the three string options are not the
    empty string (Python treats `--factory ""`, `--factory-drawer ""`, `--output ""` as absent, the Model does not: see
    `C17_source_cli_main_empty_option_src` and `C17_source_cli_empty_option_model`). -/
theorem C17_source_cli_src {PyStr : Type} (i : CliInput) (args : List PyStr) (str_encode : PyStr → String → String → List Nat)
    (harg : i.arg = args.head?.map fun a => str_encode a "utf-8" "surrogateescape")
    (hf : i.factory ≠ some "") (hd : i.drawer ≠ some "") (ho : i.output ≠ some "") :
    cliInterp (cli_main i.factory i.drawer (i.optimize.map Int.ofNat) i.level i.ascii i.output args
        (cliImport i) str_encode i.stdin (cliAliases i) id i.stdoutIsTty)
      = some (cliNormalize (Model.cli i)) :=
  QR.SourceTieT.cli_src i args str_encode harg hf hd ho

/-- source: `--factory ""`, `--factory-drawer ""`, `--output ""` behave exactly as if the option were absent (`if opts.x:`) -/
theorem C17_source_cli_main_empty_option_src {PyStr Fac D Drawer : Type} (fac drw out : Option String) (opt : Option Int) (lvl : String)
    (asc : Bool) (args : List PyStr) (imp : String → Option Fac) (enc : PyStr → String → String → List Nat) (stdin : List Nat)
    (al : Fac → Option (List (String × D))) (mk : D → Drawer) (tty : Bool) :
    cli_main (some "") drw opt lvl asc out args imp enc stdin al mk tty = cli_main none drw opt lvl asc out args imp enc stdin al mk tty ∧
    cli_main fac (some "") opt lvl asc out args imp enc stdin al mk tty = cli_main fac none opt lvl asc out args imp enc stdin al mk tty ∧
    cli_main fac drw opt lvl asc (some "") args imp enc stdin al mk tty = cli_main fac drw opt lvl asc none args imp enc stdin al mk tty :=
  QR.SourceTieT.cli_main_empty_option_src fac drw out opt lvl asc args imp enc stdin al mk tty

/-- Model: `--factory ""` and `--factory-drawer ""` are failures, `--output ""` writes to the file "" -/
theorem C17_source_cli_empty_option_model (i : CliInput) (l : Nat) (hl : Gen.CLI_LEVELS.lookup i.level = some l) :
    (i.factory = some "" → Model.cli i = .fail) ∧
    (i.drawer = some "" → i.factory = none → Model.cli i = .fail) ∧
    (i.output = some "" → i.factory = none → i.drawer = none →
      Model.cli i = .image none none l (segsOf i) (.file "")) :=
  QR.SourceTieT.cli_empty_option_model i l hl

end SourceTieT

/-! ### Bridges (plugin `frag_d6.py`, functions translated whole as `Gen.Code.lo_*`): `console_scripts.commas` and `get_drawer_help`.
    The Model has no function of its own for the help texts (they do not influence what the command encodes); the bridge is to
    the Model's tables and to `Model.drawerAliases`: the text built by the translated source from the regenerated
    `default_factories` lists exactly the factories for which the Model accepts a `--factory-drawer`, with exactly the aliases
    the Model accepts. -/
section SourceTieD6
open QR.Gen.Code QR.SourceTieD6

/-- `console_scripts.commas(items, joiner="or")`: empty and one-element inputs -/
theorem C17_source_commas_small (a j : String) :
    lo_commas_joiner_default = "or" ∧ lo_commas [] j = "" ∧ lo_commas [a] j = a :=
  ⟨rfl, rfl, rfl⟩

/-- `console_scripts.commas`: two or more items - all but the last joined by ", ", the joiner between spaces, the last -/
theorem C17_source_commas_many (init : List String) (last j : String) (h : init ≠ []) :
    lo_commas (init ++ [last]) j = lo_py_join ", " init ++ " " ++ j ++ " " ++ last := by
  have hl : 1 ≤ init.length := List.length_pos_iff.2 h
  have hlen : (init ++ [last]).length = init.length + 1 := by simp
  unfold lo_commas lo_py_len
  have h0 : ¬ (((init ++ [last]).length : Int) = 0) := by omega
  have h1 : ¬ (((init ++ [last]).length : Int) = 1) := by omega
  simp only [h0, h1, decide_false, Bool.false_eq_true, if_false]
  -- `items[:-1]` and `items[-1]`
  have hs : lo_py_slice (init ++ [last]) none (some (-1)) = init := by
    unfold lo_py_slice lo_py_clamp
    have hstop : ((-1 : Int) + ((init ++ [last]).length : Int)).toNat = init.length := by omega
    simp only [show (-1 : Int) < 0 by decide, if_true, show ¬ ((-1 : Int) + ((init ++ [last]).length : Int) < 0) by omega,
      if_false, show ¬ ((-1 : Int) + ((init ++ [last]).length : Int) > ((init ++ [last]).length : Int)) by omega, hstop,
      List.drop_zero, List.take_left']
  have hg : lo_py_getitemD (init ++ [last]) (-1) = last := by
    unfold lo_py_getitemD
    rw [show (-1 : Int) = -((1 : Nat) : Int) from rfl, py_getitem_neg _ 1 (Nat.le_refl 1) (by omega), hlen]
    simp
  rw [hs, hg]

/-- `commas(default_factories)` (the `--factory` help of `console_scripts.main`) on the regenerated `Gen.CLI_FACTORIES` -/
theorem C17_source_commas_default_factories :
    lo_commas (Gen.CLI_FACTORIES.map (·.1)) lo_commas_joiner_default = "pil, png, svg, svg-fragment, svg-path or pymaging" := by
  decide +kernel

/-- one iteration of the loop of `console_scripts.get_drawer_help`: failed import / missing or empty `drawer_aliases` skip -/
theorem C17_source_gdh_step_src {Img : Type} (imp : String → Option Img) (attr : Img → Option (List String))
    (help : List (String × List String)) (alias path : String) :
    lo_gdh_step imp attr help alias path =
      match (imp path).bind attr with
      | none => help
      | some [] => help
      | some (a :: as) => lo_py_setdefault_add help (lo_commas (a :: as) "or") alias := by
  unfold lo_gdh_step
  cases imp path with
  | none => rfl
  | some image =>
    simp only [Option.bind_some]
    cases attr image with
    | none => rfl
    | some l =>
      cases l with
      | nil => rfl
      | cons a as =>
        have h : ¬ (lo_py_len (a :: as) = 0) := by simp [lo_py_len]; omega
        simp only [h, decide_false, Bool.false_eq_true, if_false]
        rfl

/-- `console_scripts.get_drawer_help()` on the regenerated `default_factories` with the drawer aliases `Model.drawerAliases`
    accepts: the help text names exactly the SVG factories and their three aliases.  (Python builds the factory names in a
    `set`; the order `svg and svg-path` is the insertion order - with hash randomisation CPython may print `svg-path and svg`;
    the Model does not depend on the text.) -/
theorem C17_source_get_drawer_help_src :
    lo_get_drawer_help (Img := String) (fun path => some path) (fun path => some (drawerAliases (some path)))
      Gen.CLI_FACTORIES = "For svg and svg-path, use: circle, gapped-circle or gapped-square" := by
  decide +kernel

/-- the factories `get_drawer_help` lists are exactly those for which `Model.drawerAliases` is non-empty -/
theorem C17_source_get_drawer_help_factories :
    ((Gen.CLI_FACTORIES.foldl (fun d kv => lo_gdh_step (Img := String) (fun path => some path)
        (fun path => some (drawerAliases (some path))) d kv.1 kv.2) []).flatMap (·.2)) =
      (Gen.CLI_FACTORIES.map (·.1)).filter (fun k => !(drawerAliases (some k)).isEmpty) := by
  decide +kernel

end SourceTieD6

/-- the Python functions this property's model mirrors have, in /repo's current working tree, exactly the normalised
    ASTs the model was written and validated against (fingerprints regenerated by T1 on every run) -/
theorem C17_source_fingerprints : QR.Gen.fp_C17 = QR.Pinned.fp_C17 := by decide

end QR.Props
