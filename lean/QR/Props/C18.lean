import QR.Proofs.SourceTieMakeImage
import QR.Model.QRObject
import QR.Proofs.Except
import QR.Proofs.History
import QR.Proofs.Pinned
import QR.Proofs.CapstoneObject
/-
C18 - out-of-range settings are rejected, in-range settings accepted (all integers), and nothing is produced under an
out-of-range setting (invariant over operation sequences of any length): the validators `C18_version` … `C18_box`, the constructor
`C18_construct`, and `C18_never` over `C18_step` / `C18_run`.
`C18_source_*`: bridges, capstones and the fingerprint obligation (the three kinds are explained at the head of Props/C02.lean).
-/
namespace QR.Props
open QR.Model

/-- version: rejected with ValueError iff outside 1..40 (construction uses the same setter) -/
theorem C18_version (x : Int) : checkVersion x = .error .valueError ↔ x < 1 ∨ 40 < x := by
  rw [checkVersion, R.guard_error, and_iff_left rfl]

theorem C18_version_ok (x : Int) : checkVersion x = .ok () ↔ 1 ≤ x ∧ x ≤ 40 := checkVersion_ok

/-- mask pattern: None accepted, integers rejected with ValueError iff outside 0..7 -/
theorem C18_mask (x : Int) : checkMaskPattern (some x) = .error .valueError ↔ x < 0 ∨ 7 < x := by
  rw [checkMaskPattern, R.guard_error, and_iff_left rfl]

theorem C18_mask_none : checkMaskPattern none = .ok () := rfl

/-- border: rejected iff negative -/
theorem C18_border (x : Int) : checkBorder x = .error .valueError ↔ x < 0 := by
  rw [checkBorder, R.guard_error, and_iff_left rfl]

/-- box size: rejected iff not positive -/
theorem C18_box (x : Int) : checkBoxSize x = .error .valueError ↔ x ≤ 0 := by
  rw [checkBoxSize, R.guard_error, and_iff_left rfl]

/-- construction: succeeds iff every argument is in range (what it then stores: `construct_eq_ok`) -/
theorem C18_construct (version : Option Int) (level : Nat) (box border : Int) (mask : Option Int) :
    (∃ s, construct version level box border mask = .ok s) ↔
      (0 < box ∧ 0 ≤ border ∧ (∀ v, version = some v → 1 ≤ v ∧ v ≤ 40) ∧ (∀ m, mask = some m → 0 ≤ m ∧ m ≤ 7)) := by
  simp only [construct_eq_ok, exists_and_left, exists_eq, and_true]

/-! ### nothing is produced under an out-of-range setting (proofs: QR/Proofs/History.lean)

`GInv g` is the invariant of the process-wide blank cache (`Props.Global.Inv` of C11, which every operation preserves and
the empty cache satisfies); `CacheInv s` says that a filled `data_cache` goes with a `modules_count` of a real version. -/

/-- the settings a state may hold when something is produced -/
def SettingsOK (s : QRState) : Prop := s.version ≤ 40 ∧ (∀ m, s.mask = some m → m ≤ 7)

theorem SettingsOK_iff (s : QRState) : SettingsOK s ↔ SettingsInv s := Iff.rfl

/-- a constructed object satisfies the invariants -/
theorem C18_constructed (version : Option Int) (level : Nat) (box border : Int) (mask : Option Int) (s0 : QRState)
    (h : construct version level box border mask = .ok s0) : SettingsOK s0 ∧ CacheInv s0 ∧ 0 < s0.boxSize :=
  construct_inv h

/-- every operation keeps the settings in range (setters validate; `best_fit` only stores checked versions) and keeps
    the two cache invariants -/
theorem C18_step (g : Global) (hg : GInv g) (s : QRState) (op : Op) :
    GInv (step (g, s) op).1.1 ∧ (SettingsOK s → SettingsOK (step (g, s) op).1.2) ∧
      (CacheInv s → CacheInv (step (g, s) op).1.2) := by
  obtain ⟨a1, a2, a3, a4, _⟩ := step_inv g s op hg
  exact ⟨a1, fun hs => ⟨a2 hs.1, a3 hs.2⟩, a4⟩

/-- ... hence so does every sequence of operations -/
theorem C18_run (ops : List Op) (g : Global) (hg : GInv g) (s : QRState) :
    GInv (run (g, s) ops).1.1 ∧ (SettingsOK s → SettingsOK (run (g, s) ops).1.2) ∧
      (CacheInv s → CacheInv (run (g, s) ops).1.2) := by
  obtain ⟨a1, a2, a3, a4⟩ := run_inv ops g s hg
  exact ⟨a1, fun hs => ⟨a2 hs.1, a3 hs.2⟩, a4⟩

/-- **C18**: the `k`-th output of any run, if it is a matrix, an image or a text, was handed out in a state (`post`,
    the state right after the `k`-th operation, i.e. after its implicit compile) with `version ≤ 40`, mask `None` or
    `≤ 7`, a compiled matrix whose size is that of a real version `1..40`, and - for an image - `box_size > 0`; the
    output carries exactly that state's matrix, border, size and box size (a text: that border, or the fixed 1 of `print_tty`).
    `1 ≤ version` holds as soon as the operation compiled (`data_cache` was empty) or `version` was not `None` before;
    it does NOT hold in general: see `C18_version_none_after_compile`. -/
theorem C18_never (ops : List Op) (g0 : Global) (hg : GInv g0) (s0 : QRState) (hs : SettingsOK s0) (hc : CacheInv s0)
    (k : Nat) (o : Out) (h : (run (g0, s0) ops).2[k]? = some o) :
    let pre := (run (g0, s0) (ops.take k)).1.2
    let post := (run (g0, s0) (ops.take (k + 1))).1.2
    let produced := post.version ≤ 40 ∧ (∀ m, post.mask = some m → m ≤ 7) ∧ post.dataCache.isSome = true ∧
      ∃ v, 1 ≤ v ∧ v ≤ 40 ∧ post.modulesCount = v * 4 + 17
    let versionSet := pre.dataCache = none ∨ pre.version ≠ 0 → 1 ≤ post.version
    match o with
    | .matrix m => produced ∧ versionSet ∧ m = framedOpt post.modules.toLists post.border
    | .image b n bs m => produced ∧ versionSet ∧ 0 < post.boxSize ∧ b = post.border ∧ n = post.modulesCount ∧
        bs = post.boxSize ∧ m = post.modules.toLists
    | .text b m => produced ∧ versionSet ∧ (b = post.border ∨ b = 1) ∧ m = post.modules.toLists
    | _ => True := by
  have := run_out ops g0 s0 hg hs hc k o h
  cases o <;> exact this

/-- the outputs that hand something out -/
def isProduct : Out → Bool
  | .matrix _ => true
  | .image .. => true
  | .text .. => true
  | _ => false

/-- ... in particular for every constructed object, from the empty process cache -/
theorem C18_never_constructed (version : Option Int) (level : Nat) (box border : Int) (mask : Option Int)
    (s0 : QRState) (hcon : construct version level box border mask = .ok s0) (ops : List Op)
    (k : Nat) (o : Out) (h : (run ({ blanks := [] }, s0) ops).2[k]? = some o) (ho : isProduct o = true) :
    (run ({ blanks := [] }, s0) (ops.take (k + 1))).1.2.version ≤ 40 ∧
    (∀ m, (run ({ blanks := [] }, s0) (ops.take (k + 1))).1.2.mask = some m → m ≤ 7) ∧
    (∃ v, 1 ≤ v ∧ v ≤ 40 ∧ (run ({ blanks := [] }, s0) (ops.take (k + 1))).1.2.modulesCount = v * 4 + 17) ∧
    (∀ b n bs m, o = .image b n bs m → 0 < bs) := by
  have := run_out ops _ s0 GInv.empty (construct_inv hcon).1 (construct_inv hcon).2.1 k o h
  cases o with
  | matrix m | text b m => exact ⟨this.1.1, this.1.2.1, this.1.2.2.2, fun _ _ _ _ he => by cases he⟩
  | image b n bs m =>
    obtain ⟨a1, _, a3, _, _, a6, _⟩ := this
    refine ⟨a1.1, a1.2.1, a1.2.2.2, fun _ _ bs' _ he => ?_⟩
    injection he with _ _ he _
    subst he
    rw [a6]; exact a3
  | unit | err e => cases ho

/-- why `1 ≤ version` cannot be claimed unconditionally: `qr.version = None` after a compile does not clear the data
    cache, so `get_matrix()` hands out the stored matrix while `version` is `None` (0 in the model) -/
theorem C18_version_none_after_compile (g : Global) (s : QRState) (d : List Nat) (h : s.dataCache = some d) :
    (run (g, s) [.setVersion none, .getMatrix]).2 = [.unit, .matrix (framedOpt s.modules.toLists s.border)] ∧
    (run (g, s) [.setVersion none, .getMatrix]).1.2.version = 0 := by
  simp [run, step, ensureMade, h]

/-! ### Bridge (`tools/translate.py` itself: single expressions) for the raise conditions of the four validators -/

/-- the four validators raise exactly under the conditions that stand in the source now -/
theorem C18_source_validators (x : Int) :
    (checkVersion x = if Gen.Code.check_version_bad x then .error .valueError else .ok ()) ∧
    (checkBoxSize x = if Gen.Code.check_box_size_bad x then .error .valueError else .ok ()) ∧
    (checkBorder x = if Gen.Code.check_border_bad x then .error .valueError else .ok ()) ∧
    (checkMaskPattern (some x) = if Gen.Code.check_mask_pattern_bad x then .error .valueError else .ok ()) := by
  refine ⟨?_, ?_, ?_, ?_⟩
  · simp only [checkVersion, Gen.Code.check_version_bad, Bool.or_eq_true, decide_eq_true_eq]
  · simp only [checkBoxSize, Gen.Code.check_box_size_bad, decide_eq_true_eq]
  · simp only [checkBorder, Gen.Code.check_border_bad, decide_eq_true_eq]
  · simp only [checkMaskPattern, Gen.Code.check_mask_pattern_bad, Bool.or_eq_true, decide_eq_true_eq]

/-! ### Bridges (plugin `frag_d2.py`, `Gen.Code.ob_*`: the QRCode object's own methods translated statement by statement).  Those that
    other proofs use as well are proved in QR/Proofs/SourceTieObject.lean, SourceTieMakeImage.lean. -/
section SourceTieD2
open QR.Gen.Code QR.SourceTieD2

/-- `_check_box_size(size)` on an integer -/
theorem C18_source_checkBoxSize_src (x : Int) : ob_check_box_size (.int x) = liftR (checkBoxSize x) :=
  QR.SourceTieD2.checkBoxSize_src x

/-- `_check_box_size(size)` on the other types: `int(None)` / `int(other)` raise TypeError; `True` is 1, `False` is 0; a
    float is truncated first (so `box_size=0.5` is rejected, `box_size=1.5` accepted) -/
theorem C18_source_checkBoxSize_nonint_src :
    ob_check_box_size .none = .error "TypeError" ∧ ob_check_box_size .other = .error "TypeError" ∧
    ob_check_box_size (.bool true) = .ok () ∧ ob_check_box_size (.bool false) = .error "ValueError" ∧
    (∀ t, ob_check_box_size (.float t) = ob_check_box_size (.int t)) :=
  ⟨rfl, rfl, rfl, rfl, fun _ => rfl⟩

/-- `_check_border(size)` on an integer -/
theorem C18_source_checkBorder_src (x : Int) : ob_check_border (.int x) = liftR (checkBorder x) :=
  QR.SourceTieD2.checkBorder_src x

/-- `_check_border(size)` on the other types (`border=-0.5` is accepted: `int(-0.5) == 0`) -/
theorem C18_source_checkBorder_nonint_src :
    ob_check_border .none = .error "TypeError" ∧ ob_check_border .other = .error "TypeError" ∧
    (∀ b, ob_check_border (.bool b) = .ok ()) ∧ (∀ t, ob_check_border (.float t) = ob_check_border (.int t)) :=
  ⟨rfl, rfl, fun b => by cases b <;> rfl, fun _ => rfl⟩

/-- `_check_mask_pattern(mask_pattern)` on `None` or an integer: the complete body (early return, isinstance test, range) -/
theorem C18_source_checkMaskPattern_src (x : Option Int) : ob_check_mask_pattern (optVal x) = liftR (checkMaskPattern x) :=
  QR.SourceTieD2.checkMaskPattern_src x

/-- `_check_mask_pattern` on the other types: a float or another object is a TypeError; a `bool` IS an `int` instance and
    `True` / `False` are in range, so both are accepted -/
theorem C18_source_checkMaskPattern_nonint_src :
    (∀ t, ob_check_mask_pattern (.float t) = .error "TypeError") ∧ ob_check_mask_pattern .other = .error "TypeError" ∧
    (∀ b, ob_check_mask_pattern (.bool b) = .ok ()) :=
  ⟨fun _ => rfl, rfl, fun b => by cases b <;> rfl⟩

/-- the getters of `border` and `mask_pattern` return the stored attribute -/
theorem C18_source_getters_src {F : Type} (fac : Option F) (s : QRState) :
    ob_get_border (toOb fac s) = (s.border : Int) ∧ ob_get_mask_pattern (toOb fac s) = optVal (s.mask.map Int.ofNat) := by
  refine ⟨rfl, ?_⟩
  cases h : s.mask <;> simp [ob_get_mask_pattern, toOb, optVal, h]

/-- `self.version = value`: `None` is stored as it is; otherwise `int(value)`, `util.check_version`, store -/
theorem C18_source_setVersion_src {F : Type} (fac : Option F) (g : Global) (s : QRState) (x : Option Int) :
    Agrees fac g s (ob_set_version checkVersionOb (toOb fac s) (optVal x)) (step (g, s) (.setVersion x)) :=
  QR.SourceTieD2.setVersion_src fac g s x

/-- `self.border = value`: `_check_border(value)`, then `int(value)` is stored -/
theorem C18_source_setBorder_src {F : Type} (fac : Option F) (g : Global) (s : QRState) (x : Int) :
    Agrees fac g s (ob_set_border (toOb fac s) (.int x)) (step (g, s) (.setBorder x)) :=
  QR.SourceTieD2.setBorder_src fac g s x

/-- `self.mask_pattern = pattern`: `_check_mask_pattern(pattern)`, then the argument itself is stored -/
theorem C18_source_setMask_src {F : Type} (fac : Option F) (g : Global) (s : QRState) (x : Option Int) :
    Agrees fac g s (ob_set_mask_pattern (toOb fac s) (optVal x)) (step (g, s) (.setMask x)) :=
  QR.SourceTieD2.setMask_src fac g s x

/-- a bool passes the mask setter and is stored AS A BOOL (`qr.mask_pattern = True` leaves `_mask_pattern is True`); the
    Model's setter takes integers only -/
theorem C18_source_setMask_bool_src {D C F : Type} (o : ob_QR D C F) (b : Bool) :
    ob_set_mask_pattern o (.bool b) = .ok { o with _mask_pattern := .bool b } := by
  cases b <;> rfl

/-- **`QRCode.__init__`** on integer (or `None`) arguments = the Model's `construct`: the same checks in the same order
    (`_check_box_size`, `_check_border`, the `version` setter, `int(error_correction)`, `int(box_size)`, the `border`
    setter on `int(border)`, the `mask_pattern` setter, the factory assertion, `clear()`), the same exception class, the
    same resulting attributes - whatever the attributes were before (`self0`).  `fac` is the `image_factory` argument
    (absent from the Model); it must be `None` or a subclass of `BaseImage`. -/
theorem C18_source_construct_src {F : Type} (issub : F → Bool) (fac : Option F) (hf : ∀ f, fac = some f → issub f = true)
    (self0 : ob_QR Seg (List Nat) F) (version : Option Int) (level : Nat) (box border : Int) (mask : Option Int) :
    ob_init checkVersionOb issub self0 (optVal version) (.int level) (.int box) (.int border) fac (optVal mask) =
      liftR ((construct version level box border mask).map (toOb fac)) :=
  QR.SourceTieD2.construct_src issub fac hf self0 version level box border mask

/-- texts recorded by the translator for `QRCode.make_image` (imports, raise message) and the field order of `ActiveWithNeighbors` -/
theorem C18_source_make_image_literals_src :
    ob_make_image_pure_import = "from qrcode.image.pure import PyPNGImage" ∧
    ob_make_image_import = "from qrcode.image.pil import Image, PilImage" ∧
    ob_make_image_raise0 =
      "ValueError('Error correction level must be ERROR_CORRECT_H if an embedded image is provided')" ∧
    ob_awn_fields = ["NW", "N", "NE", "W", "me", "E", "SW", "S", "SE"] ∧ ob_awn_bool_field = "me" :=
  ⟨rfl, rfl, rfl, rfl, rfl⟩

/-- the factory selection, the call of the class and the draw loops, on any object -/
theorem C18_source_make_image_rest_src {D C F K W : Type} (issub : F → Bool) (Image : Bool) (PilImage PyPNGImage : F)
    (nd nc np : F → Bool) (w : W) (o : ob_QR D C F) (arg : Option F) (kwargs : List (String × K))
    (hf : ∀ f, arg = some f → issub f = true) :
    ob_make_image_rest issub Image PilImage PyPNGImage nd nc np w o arg kwargs =
      (let im : ob_Call F K :=
         { cls := chosenFactory Image PilImage PyPNGImage o.image_factory arg,
           pos := [o._border, (o.modules_count : Int), o.box_size], kw := [("qrcode_modules", o.modules)], star := kwargs }
       ((w, o), .ok (im, ob_make_image_draw nd nc np o im))) :=
  QR.SourceTieD2.make_image_rest_src issub Image PilImage PyPNGImage nd nc np w o arg kwargs hf

/-- an `image_factory` argument that is not a subclass of `BaseImage` fails the assertion - after the box-size check and
    the implicit compile (the Model has no factory argument) -/
theorem C18_source_make_image_rest_bad_factory_src {D C F K W : Type} (issub : F → Bool) (Image : Bool) (PilImage PyPNGImage : F)
    (nd nc np : F → Bool) (w : W) (o : ob_QR D C F) (f : F) (kwargs : List (String × K)) (hf : issub f = false) :
    ob_make_image_rest issub Image PilImage PyPNGImage nd nc np w o (some f) kwargs = ((w, o), .error "AssertionError") := by
  simp [ob_make_image_rest, hf]

/-- **`make_image`** = the Model's `step .makeImage`: the box-size check on the CURRENT `box_size` attribute first, then the
    implicit compile when `data_cache is None`; the same exception class and state in the error cases; otherwise the image
    class receives exactly `(border, modules_count, box_size, qrcode_modules=modules, **kwargs)` of the state after the
    compile - the fields of the Model's `.image` output, in this order.
    Hypotheses: no embedded image in `kwargs` unless the level is H (the Model has no `kwargs`; see
    `make_image_embedded_src`), and the `image_factory` argument, if given, is a subclass of `BaseImage`. -/
theorem C18_source_makeImage_src {F K : Type} (issub : F → Bool) (truthy : K → Bool) (Image : Bool) (PilImage PyPNGImage : F)
    (nd nc np : F → Bool) (fac : Option F) (g : Global) (s : QRState) (arg : Option F) (kwargs : List (String × K))
    (hk : (ob_py_truthy_opt truthy (ob_py_kwargs_get kwargs "embeded_image_path") ||
            ob_py_truthy_opt truthy (ob_py_kwargs_get kwargs "embeded_image")) = false ∨ s.level = 2)
    (hf : ∀ f, arg = some f → issub f = true) :
    ob_make_image issub truthy Image PilImage PyPNGImage nd nc np (makeOb fac) g (toOb fac s) arg kwargs =
      match step (g, s) .makeImage with
      | (st', .err e) => ((st'.1, toOb fac st'.2), .error e.name)
      | (st', .image b n bs m) =>
        (let im : ob_Call F K :=
           { cls := chosenFactory Image PilImage PyPNGImage fac arg, pos := [(b : Int), (n : Int), bs],
             kw := [("qrcode_modules", m)], star := kwargs }
         ((st'.1, toOb fac st'.2), .ok (im, ob_make_image_draw nd nc np (toOb fac st'.2) im)))
      | (st', _) => ((st'.1, toOb fac st'.2), .error "unreachable") :=
  QR.SourceTieD2.makeImage_src issub truthy Image PilImage PyPNGImage nd nc np fac g s arg kwargs hk hf

/-- the test the Model does not have: an embedded image (`embeded_image_path` or `embeded_image` truthy in `kwargs`) with a
    level other than `ERROR_CORRECT_H` (= 2, read from `constants.py`) is a ValueError BEFORE anything else happens -/
theorem C18_source_make_image_embedded_src {D C F K W : Type} (issub : F → Bool) (truthy : K → Bool) (Image : Bool)
    (PilImage PyPNGImage : F) (nd nc np : F → Bool) (mk : W × ob_QR D C F → (W × ob_QR D C F) × Except String Unit)
    (w : W) (o : ob_QR D C F) (arg : Option F) (kwargs : List (String × K))
    (hk : (ob_py_truthy_opt truthy (kwargs.lookup "embeded_image_path") ||
            ob_py_truthy_opt truthy (kwargs.lookup "embeded_image")) = true) (hl : o.error_correction ≠ 2) :
    ob_make_image issub truthy Image PilImage PyPNGImage nd nc np mk w o arg kwargs = ((w, o), .error "ValueError") :=
  QR.SourceTieD2.make_image_embedded_src issub truthy Image PilImage PyPNGImage nd nc np mk w o arg kwargs hk hl

/-- **the draw loop of `make_image`** for an image class that needs `drawrect` calls without context: the calls on the
    image are exactly `drawrect(r, c)` for the dark cells of the matrix in row-major order, followed by `process()` iff the
    class needs processing -/
theorem C18_source_make_image_draw_src {D C F K : Type} (nd nc np : F → Bool) (o : ob_QR D C F) (im : ob_Call F K)
    (hd : nd im.cls = true) (hc : nc im.cls = false) :
    ob_make_image_draw nd nc np o im =
      (darkCells o.modules o.modules_count).map
        (fun (p : Nat × Nat) => ({ method := "drawrect", args := [(p.1 : Int), (p.2 : Int)], kw := [] } : ob_Ev)) ++
      (if np im.cls then [({ method := "process", args := [], kw := [] } : ob_Ev)] else []) := by
  rw [make_image_draw_eq]
  simp only [hd, if_true, cellEvs, hc, Bool.false_eq_true, if_false, flatMap_if_singleton, darkCells, List.map_flatMap,
    List.map_map, Function.comp_def]

/-- with `needs_context` every cell gets a `drawrect_context(r, c, qr=self)`, dark or not -/
theorem C18_source_make_image_draw_context_src {D C F K : Type} (nd nc np : F → Bool) (o : ob_QR D C F) (im : ob_Call F K)
    (hd : nd im.cls = true) (hc : nc im.cls = true) :
    ob_make_image_draw nd nc np o im =
      (allCells o.modules_count).map
        (fun (p : Nat × Nat) => ({ method := "drawrect_context", args := [(p.1 : Int), (p.2 : Int)], kw := [("qr", "self")] } : ob_Ev)) ++
      (if np im.cls then [({ method := "process", args := [], kw := [] } : ob_Ev)] else []) := by
  rw [make_image_draw_eq]
  simp only [hd, if_true, cellEvs, hc, allCells, List.map_flatMap, List.map_map, Function.comp_def, ← List.map_eq_flatMap]

/-- a class that does not need `drawrect` gets no draw call at all -/
theorem C18_source_make_image_draw_none_src {D C F K : Type} (nd nc np : F → Bool) (o : ob_QR D C F) (im : ob_Call F K)
    (hd : nd im.cls = false) :
    ob_make_image_draw nd nc np o im =
      (if np im.cls then [({ method := "process", args := [], kw := [] } : ob_Ev)] else []) := by
  rw [make_image_draw_eq]
  simp only [hd, Bool.false_eq_true, if_false, List.nil_append]

/-- `is_constrained(row, col)` is the bounds test against the matrix -/
theorem C18_source_is_constrained_src {D C F : Type} (o : ob_QR D C F) (row col : Int) :
    ob_is_constrained o row col =
      decide (0 ≤ row ∧ row < o.modules.length ∧ 0 ≤ col ∧ col < (o.modules.getD row.toNat []).length) :=
  QR.SourceTieD2.is_constrained_src o row col

/-- the expression `active_with_neighbors` appends: `is_constrained(r, c) and bool(modules[r][c])` -/
theorem C18_source_awn_cell_src {D C F : Type} (o : ob_QR D C F) (r c : Int) (ctx : List Bool) :
    ob_awn_cell o r c ctx = ctx ++ [cellAt o.modules r c] :=
  QR.SourceTieD2.awn_cell_src o r c ctx

/-- **`active_with_neighbors(row, col)`**: the nine values passed to `ActiveWithNeighbors(*context)` are the modules of the
    3x3 neighbourhood in the order NW, N, NE, W, me, E, SW, S, SE (`ob_awn_fields`, see `C18_source_make_image_literals_src`), with
    everything outside the matrix `False` -/
theorem C18_source_awn_src {D C F : Type} (o : ob_QR D C F) (row col : Int) :
    ob_awn o row col =
      [cellAt o.modules (row - 1) (col - 1), cellAt o.modules (row - 1) col, cellAt o.modules (row - 1) (col + 1),
       cellAt o.modules row (col - 1), cellAt o.modules row col, cellAt o.modules row (col + 1),
       cellAt o.modules (row + 1) (col - 1), cellAt o.modules (row + 1) col, cellAt o.modules (row + 1) (col + 1)] := by
  simp [ob_awn, ob_awn_row, py_range3, awn_cell_src]

end SourceTieD2

/-! ### Capstones: the translated validators, constructor, setters and `make_image` themselves reject exactly the out-of-range settings. -/
section Capstone
open QR.Gen.Code QR.SourceTieD2

/-- **capstone, `util.py:check_version`, `main.py:_check_box_size` / `_check_border` / `_check_mask_pattern`** (the raise
    conditions as translated from the AST, `Gen.Code.check_*_bad`): each validator raises exactly outside the documented range
    (version 1..40, box size > 0, border ≥ 0, mask 0..7), for all integers.
    From `C18_source_validators` and `C18_version`, `C18_box`, `C18_border`, `C18_mask`. -/
theorem C18_source_capstone_validators (x : Int) :
    (check_version_bad x = true ↔ x < 1 ∨ 40 < x) ∧ (check_box_size_bad x = true ↔ x ≤ 0) ∧
    (check_border_bad x = true ↔ x < 0) ∧ (check_mask_pattern_bad x = true ↔ x < 0 ∨ 7 < x) := by
  obtain ⟨h1, h2, h3, h4⟩ := C18_source_validators x
  refine ⟨?_, ?_, ?_, ?_⟩
  · rw [← C18_version, h1]; cases check_version_bad x <;> simp
  · rw [← C18_box, h2]; cases check_box_size_bad x <;> simp
  · rw [← C18_border, h3]; cases check_border_bad x <;> simp
  · rw [← C18_mask, h4]; cases check_mask_pattern_bad x <;> simp

/-- **capstone, `main.py:_check_box_size`, `_check_border`, `_check_mask_pattern`** (complete translated bodies `ob_check_*`, on an
    integer argument): ValueError iff out of range; `None` is an accepted mask pattern.
    From `C18_source_checkBoxSize_src`, `C18_source_checkBorder_src`, `C18_source_checkMaskPattern_src` and `C18_box`,
    `C18_border`, `C18_mask`, `C18_mask_none`. -/
theorem C18_source_capstone_check_methods (x : Int) :
    (ob_check_box_size (.int x) = .error "ValueError" ↔ x ≤ 0) ∧
    (ob_check_border (.int x) = .error "ValueError" ↔ x < 0) ∧
    (ob_check_mask_pattern (.int x) = .error "ValueError" ↔ x < 0 ∨ 7 < x) ∧
    ob_check_mask_pattern .none = .ok () := by
  refine ⟨?_, ?_, ?_, ?_⟩
  · rw [C18_source_checkBoxSize_src, liftR_eq_valueError, C18_box]
  · rw [C18_source_checkBorder_src, liftR_eq_valueError, C18_border]
  · rw [show ob_Val.int x = optVal (some x) from rfl, C18_source_checkMaskPattern_src, liftR_eq_valueError, C18_mask]
  · rw [show ob_Val.none = optVal none from rfl, C18_source_checkMaskPattern_src, C18_mask_none]; rfl

/-- **capstone, `main.py:QRCode.__init__`** (translated `ob_init`, with the translated `_check_*`, setters and `clear`; the callee
    `util.check_version` is the parameter `checkVersionOb` = the Model's `checkVersion` on integers, tied to the source by
    `C18_source_validators`): on integer / `None` arguments the constructor returns an object iff every argument is in range.
    From `C18_source_construct_src`, `C18_construct`.  `fac` must be `None` or a subclass of `BaseImage` (`hf`). -/
theorem C18_source_capstone_construct {F : Type} (issub : F → Bool) (fac : Option F) (hf : ∀ f, fac = some f → issub f = true)
    (self0 : ob_QR Seg (List Nat) F) (version : Option Int) (level : Nat) (box border : Int) (mask : Option Int) :
    (∃ o, ob_init checkVersionOb issub self0 (optVal version) (.int level) (.int box) (.int border) fac (optVal mask) = .ok o) ↔
      (0 < box ∧ 0 ≤ border ∧ (∀ v, version = some v → 1 ≤ v ∧ v ≤ 40) ∧ (∀ m, mask = some m → 0 ≤ m ∧ m ≤ 7)) := by
  simp only [QR.CapstoneE5.init_eq_ok issub fac hf, exists_comm (α := ob_QR Seg (List Nat) F), exists_and_left,
    exists_eq, and_true]
  exact C18_construct version level box border mask

/-- **capstone, the property setters `main.py:QRCode.version` / `border` / `mask_pattern` (`@x.setter`)** (translated
    `ob_set_*`; `util.check_version` = `checkVersionOb` as above) on the object of any state: ValueError iff out of range,
    and an in-range value is stored (object of the state with that one field replaced).
    From `C18_source_setVersion_src`, `C18_source_setBorder_src`, `C18_source_setMask_src` and `C18_version`, `C18_border`,
    `C18_mask`. -/
theorem C18_source_capstone_setters {F : Type} (fac : Option F) (s : QRState) (x : Int) :
    (ob_set_version checkVersionOb (toOb fac s) (.int x) = .error "ValueError" ↔ x < 1 ∨ 40 < x) ∧
    (ob_set_border (toOb fac s) (.int x) = .error "ValueError" ↔ x < 0) ∧
    (ob_set_mask_pattern (toOb fac s) (.int x) = .error "ValueError" ↔ x < 0 ∨ 7 < x) ∧
    (1 ≤ x ∧ x ≤ 40 → ob_set_version checkVersionOb (toOb fac s) (.int x) = .ok (toOb fac { s with version := x.toNat })) ∧
    (0 ≤ x → ob_set_border (toOb fac s) (.int x) = .ok (toOb fac { s with border := x.toNat })) ∧
    (0 ≤ x ∧ x ≤ 7 → ob_set_mask_pattern (toOb fac s) (.int x) = .ok (toOb fac { s with mask := some x.toNat })) := by
  have key : ∀ {r : Except String (ob_QR Seg (List Nat) F)} {c : R Unit} {s' : QRState},
      Agrees fac ({ blanks := [] } : Global) s r
        (match c with | .ok _ => (({ blanks := [] }, s'), Out.unit) | .error e => (({ blanks := [] }, s), .err e)) →
      (r = .error "ValueError" ↔ c = .error .valueError) ∧ (∀ u, c = .ok u → r = .ok (toOb fac s')) := by
    intro r c s' h
    cases c with
    | ok u => exact ⟨by rw [h.1]; simp, fun _ _ => h.1⟩
    | error e => exact ⟨by rw [h.1]; cases e <;> simp [Err.name], fun _ h => nomatch h⟩
  obtain ⟨v1, v2⟩ := key (c := checkVersion x) (C18_source_setVersion_src fac _ s (some x))
  obtain ⟨b1, b2⟩ := key (c := checkBorder x) (C18_source_setBorder_src fac _ s x)
  obtain ⟨m1, m2⟩ := key (c := checkMaskPattern (some x)) (C18_source_setMask_src fac _ s (some x))
  exact ⟨v1.trans (C18_version x), b1.trans (C18_border x), m1.trans (C18_mask x),
    fun hx => v2 () (checkVersion_ok.2 hx), fun hx => b2 () (checkBorder_ok.2 hx),
    fun hx => m2 () (checkMaskPattern_ok.2 fun m h => by cases h; exact hx)⟩

/-- **capstone, `main.py:QRCode.make_image`** (translated `ob_make_image`; the implicit compile `self.make()` is the parameter
    `makeOb fac` = the Model's `makeS true`): with a `box_size` attribute ≤ 0 nothing is produced - ValueError, state unchanged,
    before any compile.  From `C18_source_makeImage_src`, `C18_box`.  Hypotheses of the bridge kept: no embedded image unless
    level H (`hk`), factory argument a subclass of `BaseImage` (`hf`). -/
theorem C18_source_capstone_make_image_rejected {F K : Type} (issub : F → Bool) (truthy : K → Bool) (Image : Bool)
    (PilImage PyPNGImage : F) (nd nc np : F → Bool) (fac : Option F) (g : Global) (s : QRState) (arg : Option F)
    (kwargs : List (String × K))
    (hk : (ob_py_truthy_opt truthy (ob_py_kwargs_get kwargs "embeded_image_path") ||
            ob_py_truthy_opt truthy (ob_py_kwargs_get kwargs "embeded_image")) = false ∨ s.level = 2)
    (hf : ∀ f, arg = some f → issub f = true) (hbox : s.boxSize ≤ 0) :
    ob_make_image issub truthy Image PilImage PyPNGImage nd nc np (makeOb fac) g (toOb fac s) arg kwargs =
      ((g, toOb fac s), .error "ValueError") := by
  rw [C18_source_makeImage_src issub truthy Image PilImage PyPNGImage nd nc np fac g s arg kwargs hk hf]
  have hb := (C18_box s.boxSize).2 hbox
  simp only [step, hb]
  rfl

/-- **capstone, `main.py:QRCode.make_image`** (as above; partly translated chain: `make()` = `makeOb fac`): whenever the
    translated `make_image` hands an image out, from a state satisfying the invariants every constructed object keeps
    (`C18_constructed`, `C18_run`), the image class was called with `(border, modules_count, box_size)` where `box_size > 0` and
    `modules_count = 4 v + 17` for a real version `1 ≤ v ≤ 40`, these are the object's attributes after the call, and
    `qrcode_modules` is its matrix.  From `C18_source_makeImage_src`, `step_out` (the single step of `C18_never`). -/
theorem C18_source_capstone_make_image {F K : Type} (issub : F → Bool) (truthy : K → Bool) (Image : Bool)
    (PilImage PyPNGImage : F) (nd nc np : F → Bool) (fac : Option F) (g : Global) (hg : GInv g) (s : QRState)
    (hs : SettingsOK s) (hc : CacheInv s) (arg : Option F) (kwargs : List (String × K))
    (hk : (ob_py_truthy_opt truthy (ob_py_kwargs_get kwargs "embeded_image_path") ||
            ob_py_truthy_opt truthy (ob_py_kwargs_get kwargs "embeded_image")) = false ∨ s.level = 2)
    (hf : ∀ f, arg = some f → issub f = true)
    (st' : Global × ob_QR Seg (List Nat) F) (im : ob_Call F K) (evs : List ob_Ev)
    (h : ob_make_image issub truthy Image PilImage PyPNGImage nd nc np (makeOb fac) g (toOb fac s) arg kwargs =
      (st', .ok (im, evs))) :
    ∃ (b n v : Nat) (bs : Int), im.pos = [(b : Int), (n : Int), bs] ∧ 0 < bs ∧ 1 ≤ v ∧ v ≤ 40 ∧ n = v * 4 + 17 ∧
      st'.2.box_size = bs ∧ st'.2.modules_count = n ∧ st'.2._border = (b : Int) ∧ im.kw = [("qrcode_modules", st'.2.modules)] := by
  rw [C18_source_makeImage_src issub truthy Image PilImage PyPNGImage nd nc np fac g s arg kwargs hk hf] at h
  have hn := step_out g s .makeImage hg hs hc
  cases hst : step (g, s) .makeImage with
  | mk st o =>
    rw [hst] at h hn
    cases o with
    | image b n bs m =>
      simp only [Prod.mk.injEq, Except.ok.injEq] at h
      obtain ⟨h1, h2, h3⟩ := h
      obtain ⟨⟨_, _, _, v, hv1, hv2, hv3⟩, _, hpos, hb, hn', hbs, hm⟩ := hn
      subst h1 h2
      refine ⟨b, n, v, bs, rfl, ?_, hv1, hv2, ?_, ?_, ?_, ?_, ?_⟩
      · rw [hbs]; exact hpos
      · rw [hn']; exact hv3
      · simp [toOb, hbs]
      · simp [toOb, hn']
      · simp [toOb, hb]
      · simp [toOb, hm]
    | unit | err e | matrix m | text b m => simp at h

/-- instances through the translated bodies: `box_size=0`, `border=-1`, `mask_pattern=8` are rejected, `mask_pattern=7` is not -/
example : ob_check_box_size (.int 0) = .error "ValueError" ∧ ob_check_border (.int (-1)) = .error "ValueError" ∧
    ob_check_mask_pattern (.int 8) = .error "ValueError" ∧ ob_check_mask_pattern (.int 7) ≠ .error "ValueError" :=
  ⟨(C18_source_capstone_check_methods 0).1.2 (by decide), (C18_source_capstone_check_methods (-1)).2.1.2 (by decide),
   (C18_source_capstone_check_methods 8).2.2.1.2 (by decide),
   fun h => absurd ((C18_source_capstone_check_methods 7).2.2.1.1 h) (by decide)⟩

/-! #### operation sequences executed by the translated code (`QR.CapstoneE5.stepSrc` / `runSrc`) -/
section CapstoneSeq
open QR.CapstoneE5

/-- **capstone, ANY sequence of operations executed by the TRANSLATED code** (`CapstoneE5.runSrc`; what executes each operation
    and which callees are the Model's is said at `C11_source_capstone_history_free`, Props/C11.lean; here also
    `util.check_version` = `checkVersionOb`) keeps the settings in range and keeps the two cache invariants: the run ends on the
    object of a state `s` (unique: `toOb_injective`) with `version ≤ 40`, mask `None` or `≤ 7`, and the invariants.
    From `CapstoneE5.runSrc_sim_gen` (induction over the single-step bridges), `C18_run`.  Hypotheses of the `make_image` bridge
    kept (`hk`, `CapstoneE5.EmbeddedOK`: no embedded image in `kwargs`, or level H throughout; `hf`: factory argument a subclass of
    `BaseImage`). -/
theorem C18_source_capstone_run {F K : Type} (E : ImgEnv F K)
    (hf : ∀ f, E.arg = some f → E.issub f = true) (fac : Option F) (ops : List Op) (g0 : Global) (hg : GInv g0)
    (s0 : QRState) (hk : EmbeddedOK E s0 ops) :
    ∃ g s outs, runSrc E (g0, toOb fac s0) ops = ((g, toOb fac s), outs) ∧ GInv g ∧ (SettingsOK s0 → SettingsOK s) ∧
      (CacheInv s0 → CacheInv s) := by
  exact ⟨_, _, _, runSrc_sim_gen E hf fac g0 hg s0 ops hk, C18_run ops g0 hg s0⟩

/-- **capstone (C18 itself), over ANY sequence of operations executed by the TRANSLATED code** (`runSrc`, as above) nothing is
    handed out under an out-of-range setting: the `k`-th output, if it is a matrix (`get_matrix`), an image (`make_image`: the
    call `im` of the image class and the draw calls `evs`) or a text (`print_ascii` / `print_tty`), was produced on an object
    `toOb fac post` (the object right after the `k`-th operation) with `version ≤ 40`, mask `None` or `≤ 7`, a filled data cache,
    `modules_count = 4 v + 17` for a real version `1 ≤ v ≤ 40`, and - for an image - `box_size > 0`; the matrix is that object's
    matrix framed by the translated `get_matrix_early` / `get_matrix_code`; the image class was called with exactly
    `(border, modules_count, box_size, qrcode_modules=modules, **kwargs)` of that object and drawn by the translated draw loop.
    `1 ≤ version` under the condition of `C18_never` (`pre` = the object before the `k`-th operation).
    From `CapstoneE5.runSrc_sim_gen`, `C18_never`, `SourceTieB.framedOpt_src`.  Hypotheses kept: the cache invariants `GInv`, `CacheInv`
    and `SettingsOK` of the start state (every constructed object has them: `C18_constructed`), `hk`, `hf` of the `make_image`
    bridge. -/
theorem C18_source_capstone_never {F K : Type} (E : ImgEnv F K)
    (hf : ∀ f, E.arg = some f → E.issub f = true) (fac : Option F) (ops : List Op) (g0 : Global) (hg : GInv g0)
    (s0 : QRState) (hs : SettingsOK s0) (hc : CacheInv s0) (hk : EmbeddedOK E s0 ops) (k : Nat) (o : OutSrc F K)
    (h : (runSrc E (g0, toOb fac s0) ops).2[k]? = some o) :
    ∃ pre post : QRState, (runSrc E (g0, toOb fac s0) (ops.take k)).1.2 = toOb fac pre ∧
      (runSrc E (g0, toOb fac s0) (ops.take (k + 1))).1.2 = toOb fac post ∧
      (let produced := post.version ≤ 40 ∧ (∀ m, post.mask = some m → m ≤ 7) ∧ post.dataCache.isSome = true ∧
        ∃ v, 1 ≤ v ∧ v ≤ 40 ∧ post.modulesCount = v * 4 + 17
       let versionSet := pre.dataCache = none ∨ pre.version ≠ 0 → 1 ≤ post.version
       match o with
       | .matrix m => produced ∧ versionSet ∧
           m = (if get_matrix_early post.border then post.modules.toLists
                else get_matrix_code (some false) post.modules.toLists post.border)
       | .image im evs => produced ∧ versionSet ∧ 0 < post.boxSize ∧
           im.pos = [(post.border : Int), (post.modulesCount : Int), post.boxSize] ∧
           im.kw = [("qrcode_modules", post.modules.toLists)] ∧ im.star = E.kwargs ∧
           im.cls = chosenFactory E.Image E.PilImage E.PyPNGImage fac E.arg ∧
           evs = ob_make_image_draw E.nd E.nc E.np (toOb fac post) im
       | .text b m => produced ∧ versionSet ∧ (b = post.border ∨ b = 1) ∧ m = post.modules.toLists
       | _ => True) := by
  have sim := fun n => runSrc_sim_gen E hf fac g0 hg s0 (ops.take n) (hk.take n)
  rw [runSrc_sim_gen E hf fac g0 hg s0 ops hk] at h
  rw [List.getElem?_map] at h
  obtain ⟨o', ho, rfl⟩ := Option.map_eq_some_iff.1 h
  have hn := C18_never ops g0 hg s0 hs hc k o' ho
  refine ⟨(run (g0, s0) (ops.take k)).1.2, (run (g0, s0) (ops.take (k + 1))).1.2, by rw [sim], by rw [sim], ?_⟩
  cases o' with
  | unit | err e => trivial
  | matrix m =>
    obtain ⟨a, b, c⟩ := hn
    exact ⟨a, b, by rw [c, QR.SourceTieB.framedOpt_src]⟩
  | image b n bs m =>
    obtain ⟨a1, a2, a3, a4, a5, a6, a7⟩ := hn
    subst a4 a5 a6 a7
    exact ⟨a1, a2, a3, rfl, rfl, rfl, rfl, draw_congr E.nd E.nc E.np _ _ _ rfl rfl⟩
  | text b m => exact hn

/-- **capstone, the same read off the ATTRIBUTES of the translated object** (no Model state in the conclusion): whenever the `k`-th
    output of a sequence executed by the translated code (`runSrc`, as above) hands something out (`OutSrc.isProduct`: the result
    of `get_matrix`, `make_image`, `print_ascii`, `print_tty`), the object right after that operation has `_version` `None` or an
    integer in `1..40`, `_mask_pattern` `None` or an integer in `0..7`, `_border ≥ 0`, a filled `data_cache`,
    `modules_count = 4 v + 17` for a real version `v`; and an image was requested from the image class with exactly
    `(self.border, self.modules_count, self.box_size, qrcode_modules=self.modules)` where `box_size > 0`.
    From `C18_source_capstone_never`.  Same hypotheses. -/
theorem C18_source_capstone_never_attrs {F K : Type} (E : ImgEnv F K)
    (hf : ∀ f, E.arg = some f → E.issub f = true) (fac : Option F) (ops : List Op) (g0 : Global) (hg : GInv g0)
    (s0 : QRState) (hs : SettingsOK s0) (hc : CacheInv s0) (hk : EmbeddedOK E s0 ops) (k : Nat) (o : OutSrc F K)
    (h : (runSrc E (g0, toOb fac s0) ops).2[k]? = some o) (ho : o.isProduct = true) :
    (((runSrc E (g0, toOb fac s0) (ops.take (k + 1))).1.2._version = .none ∨
        ∃ v : Nat, (runSrc E (g0, toOb fac s0) (ops.take (k + 1))).1.2._version = .int v ∧ 1 ≤ v ∧ v ≤ 40) ∧
      ((runSrc E (g0, toOb fac s0) (ops.take (k + 1))).1.2._mask_pattern = .none ∨
        ∃ m : Nat, (runSrc E (g0, toOb fac s0) (ops.take (k + 1))).1.2._mask_pattern = .int m ∧ m ≤ 7) ∧
      0 ≤ (runSrc E (g0, toOb fac s0) (ops.take (k + 1))).1.2._border ∧
      (runSrc E (g0, toOb fac s0) (ops.take (k + 1))).1.2.data_cache.isSome = true ∧
      (∃ v, 1 ≤ v ∧ v ≤ 40 ∧ (runSrc E (g0, toOb fac s0) (ops.take (k + 1))).1.2.modules_count = v * 4 + 17) ∧
      (∀ im evs, o = .image im evs →
        0 < (runSrc E (g0, toOb fac s0) (ops.take (k + 1))).1.2.box_size ∧
        im.pos = [(runSrc E (g0, toOb fac s0) (ops.take (k + 1))).1.2._border,
          ((runSrc E (g0, toOb fac s0) (ops.take (k + 1))).1.2.modules_count : Int),
          (runSrc E (g0, toOb fac s0) (ops.take (k + 1))).1.2.box_size] ∧
        im.kw = [("qrcode_modules", (runSrc E (g0, toOb fac s0) (ops.take (k + 1))).1.2.modules)])) := by
  obtain ⟨pre, post, _, hpost, hn⟩ := C18_source_capstone_never E hf fac ops g0 hg s0 hs hc hk k o h
  rw [hpost]
  have key : ∀ (_ : post.version ≤ 40 ∧ (∀ m, post.mask = some m → m ≤ 7) ∧ post.dataCache.isSome = true ∧
      ∃ v, 1 ≤ v ∧ v ≤ 40 ∧ post.modulesCount = v * 4 + 17),
      ((toOb fac post)._version = .none ∨ ∃ v : Nat, (toOb fac post)._version = .int v ∧ 1 ≤ v ∧ v ≤ 40) ∧
      ((toOb fac post)._mask_pattern = .none ∨ ∃ m : Nat, (toOb fac post)._mask_pattern = .int m ∧ m ≤ 7) ∧
      0 ≤ (toOb fac post)._border ∧ (toOb fac post).data_cache.isSome = true ∧
      (∃ v, 1 ≤ v ∧ v ≤ 40 ∧ (toOb fac post).modules_count = v * 4 + 17) := by
    intro ⟨p1, p2, p3, p4⟩
    -- `toOb` shows version 0 and mask `none` as `None`, the others as integers, the border as a natural number
    refine ⟨?_, ?_, Int.natCast_nonneg _, p3, p4⟩
    · by_cases hv0 : post.version = 0
      · exact Or.inl (if_pos hv0)
      · exact Or.inr ⟨post.version, if_neg hv0, by omega, p1⟩
    · cases hm : post.mask with
      | none => exact Or.inl (by simp only [toOb, hm])
      | some m => exact Or.inr ⟨m, by simp only [toOb, hm], p2 m hm⟩
  cases o with
  | unit | err e => cases ho
  | matrix m | text b m =>
    obtain ⟨k1, k2, k3, k4, k5⟩ := key hn.1
    exact ⟨k1, k2, k3, k4, k5, fun _ _ he => by cases he⟩
  | image im evs =>
    obtain ⟨a1, _, a3, a4, a5, _⟩ := hn
    obtain ⟨k1, k2, k3, k4, k5⟩ := key a1
    refine ⟨k1, k2, k3, k4, k5, fun im' evs' he => ?_⟩
    injection he with he1 he2
    subst he1
    exact ⟨a3, a4, a5⟩

/-- **capstone, from the constructor on**: whenever the translated `main.py:QRCode.__init__` (`ob_init`; `util.check_version` =
    `checkVersionOb`; integer / `None` arguments; `image_factory` `None` or a subclass of `BaseImage`) returns an object `o`, then
    over every sequence of operations executed by the translated code on `o`, from the empty process cache, whatever is handed out
    (`OutSrc.isProduct`) comes from an object with `version ≤ 40`, mask `None` or `≤ 7`, `modules_count = 4 v + 17` for a real version,
    and an image is only ever requested from the image class with a third positional argument (`box_size`) `> 0`.
    From `C18_source_construct_src`, `C18_constructed`, `C18_source_capstone_never`. -/
theorem C18_source_capstone_never_constructed {F K : Type} (E : ImgEnv F K)
    (hf : ∀ f, E.arg = some f → E.issub f = true) (fac : Option F) (hfac : ∀ f, fac = some f → E.issub f = true)
    (self0 : ob_QR Seg (List Nat) F) (version : Option Int) (level : Nat) (box border : Int) (mask : Option Int)
    (ob : ob_QR Seg (List Nat) F)
    (hcon : ob_init checkVersionOb E.issub self0 (optVal version) (.int level) (.int box) (.int border) fac (optVal mask) = .ok ob)
    (ops : List Op) (hk : E.embedded = false ∨ (level = 2 ∧ ∀ l, Op.setLevel l ∈ ops → l = 2))
    (k : Nat) (o : OutSrc F K) (h : (runSrc E ({ blanks := [] }, ob) ops).2[k]? = some o)
    (ho : o.isProduct = true) :
    ∃ post : QRState, (runSrc E ({ blanks := [] }, ob) (ops.take (k + 1))).1.2 = toOb fac post ∧
      post.version ≤ 40 ∧ (∀ m, post.mask = some m → m ≤ 7) ∧ (∃ v, 1 ≤ v ∧ v ≤ 40 ∧ post.modulesCount = v * 4 + 17) ∧
      (∀ im evs, o = .image im evs → ∃ (b n : Int) (bs : Int), im.pos = [b, n, bs] ∧ 0 < bs) := by
  obtain ⟨s0, hc, rfl⟩ := (init_eq_ok E.issub fac hfac self0 version level box border mask ob).1 hcon
  obtain ⟨c1, c2, _⟩ := C18_constructed version level box border mask s0 hc
  obtain ⟨pre, post, _, hpost, hn⟩ := C18_source_capstone_never E hf fac ops _ GInv.empty s0 c1 c2
    (hk.imp id fun h => ⟨(construct_level hc).trans h.1, h.2⟩) k o h
  refine ⟨post, hpost, ?_⟩
  cases o with
  | unit | err e => cases ho
  | matrix m | text b m => exact ⟨hn.1.1, hn.1.2.1, hn.1.2.2.2, fun _ _ he => by cases he⟩
  | image im evs =>
    obtain ⟨a1, _, a3, a4, _⟩ := hn
    refine ⟨a1.1, a1.2.1, a1.2.2.2, fun im' evs' he => ?_⟩
    injection he with he1 he2
    subst he1
    exact ⟨_, _, _, a4, a3⟩

/-- instance, evaluated through the translated code: on `QRCode()`, `version = 41`, `border = -1`, `mask_pattern = 8` are rejected
    (ValueError, nothing stored), `box_size = 0` is stored unchecked but `make_image()` then refuses before any compile, and
    `version = 40` is accepted; by `C18_source_capstone_run` the run ends on the object of a state with the settings in range -/
example :
    (runSrc exampleEnv ({ blanks := [] }, toOb none exampleState)
      [.setVersion (some 41), .setBorder (-1), .setMask (some 8), .setBoxSize 0, .makeImage, .setVersion (some 40)]).2 =
      [.err "ValueError", .err "ValueError", .err "ValueError", .unit, .err "ValueError", .unit] ∧
    ∃ g s outs, runSrc exampleEnv ({ blanks := [] }, toOb none exampleState)
      [.setVersion (some 41), .setBorder (-1), .setMask (some 8), .setBoxSize 0, .makeImage, .setVersion (some 40)] =
        ((g, toOb none s), outs) ∧ SettingsOK s := by
  refine ⟨rfl, ?_⟩
  obtain ⟨g, s, outs, h1, _, h2, _⟩ := C18_source_capstone_run exampleEnv (by intro f h; cases h) (none : Option Unit)
    [.setVersion (some 41), .setBorder (-1), .setMask (some 8), .setBoxSize 0, .makeImage, .setVersion (some 40)]
    { blanks := [] } GInv.empty exampleState (Or.inl rfl)
  exact ⟨g, s, outs, h1, h2 ⟨by decide, by intro m hm; cases hm⟩⟩

end CapstoneSeq
end Capstone

/-- the Python functions this property's model mirrors have, in /repo's current working tree, exactly the normalised
    ASTs the model was written and validated against (fingerprints regenerated by T1 on every run) -/
theorem C18_source_fingerprints : QR.Gen.fp_C18 = QR.Pinned.fp_C18 := by decide

end QR.Props
