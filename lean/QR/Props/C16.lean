import QR.Model.Render
import QR.Spec.Render
import QR.Proofs.Frame
import QR.Proofs.Pinned
import QR.Proofs.Implicit
import QR.Proofs.SourceTieC16
/-
C16 - get_matrix frames the symbol with exactly `border` light modules (`C16_frame`, pointwise `C16_pointwise`); and the four entry points
that compile first if necessary render the cache-free compile of the current data and settings (`C16_implicit_compile`).
`C16_source_*`: bridges, capstones and the fingerprint obligation (the three kinds are explained at the head of Props/C02.lean).
-/
namespace QR.Props
open QR.Model

/-- border 0 yields the bare symbol -/
theorem C16_zero (M : Mods) : getMatrix M 0 = M := by simp [getMatrix]

/-- the result has n + 2*border rows -/
theorem C16_rows (M : Mods) (border : Nat) : (getMatrix M border).length = M.length + 2 * border :=
  Proofs.Frame.getMatrix_length M border

/-- **C16**: for every n x n module matrix and every border, `get_matrix()` is exactly the symbol framed by `border`
light modules on each side (`Spec.frame`, defined pointwise by `Spec.framed`: position (r, c) is dark iff it lies
inside the n x n window starting at (border, border) and the module there is dark).  For `border = 0` this says that
`M` itself is its own n x n table, which is where the shape hypotheses are needed. -/
theorem C16_frame (M : List (List Bool)) (n border : Nat)
    (hlen : M.length = n) (hrow : ∀ row ∈ M, row.length = n) :
    getMatrix M border = Spec.frame M n border :=
  Proofs.Frame.getMatrix_eq_frame M n border hlen hrow

/-- the result is square of side n + 2*border -/
theorem C16_shape (M : List (List Bool)) (n border : Nat)
    (hlen : M.length = n) (hrow : ∀ row ∈ M, row.length = n) :
    (getMatrix M border).length = n + 2 * border ∧ ∀ row ∈ getMatrix M border, row.length = n + 2 * border :=
  ⟨hlen ▸ Proofs.Frame.getMatrix_length M border, Proofs.Frame.getMatrix_row_length M n border hlen hrow⟩

/-- pointwise form, for all `r c` (outside the result both sides are light) -/
theorem C16_pointwise (M : List (List Bool)) (n border : Nat)
    (hlen : M.length = n) (hrow : ∀ row ∈ M, row.length = n) (r c : Nat) :
    ((getMatrix M border).getD r []).getD c false = Spec.framed M n border r c :=
  Proofs.Frame.getMatrix_getD M n border hlen hrow r c

/-- non-vacuity: a concrete 2 x 2 symbol with border 1; the frame is light and the symbol is kept -/
example : getMatrix [[true, false], [true, true]] 1 =
    [[false, false, false, false], [false, true, false, false], [false, true, true, false],
     [false, false, false, false]] := by decide
example : Spec.frame [[true, false], [true, true]] 2 1 =
    [[false, false, false, false], [false, true, false, false], [false, true, true, false],
     [false, false, false, false]] := by decide
example : getMatrix [[true, false], [true, true]] 1 = Spec.frame [[true, false], [true, true]] 2 1 :=
  C16_frame _ 2 1 rfl (by decide)
/-- the shape hypotheses matter: a ragged "matrix" is not its own frame -/
example : getMatrix [[true], [false, true]] 0 ≠ Spec.frame [[true], [false, true]] 2 0 := by decide

/-! ### compiling the symbol first if necessary (get_matrix, make_image, print_ascii, print_tty) -/

/-- **C16 / C15 (implicit compile)**: on an object that has not been compiled since its last change
    (`data_cache is None`), with a sound process-wide blank cache (`GInv`, = `Global.Inv` of C11: true of the empty
    cache, preserved by every operation), settings the constructor / setters accept (version `None` = 0 or 1..40, mask
    `None` or 0..7, an ISO level) and data as `add_data` produces it, the four entry points that compile implicitly
    behave as a function of the cache-free `compile` of a fresh object with `fit=True`:
    * when that compile yields the symbol `M` at version `v`: `get_matrix()` returns `M` framed by `border` light
      modules, `print_ascii` / `print_tty` render `M` (with `border`, resp. the fixed frame 1), `make_image()` builds
      the image from `border`, `modules_count = 4*v + 17`, `box_size` and `M`;
    * when it overflows (the only possible failure): each raises DataOverflowError;
    * `make_image()` with `box_size ≤ 0` raises ValueError before compiling anything (state unchanged).
    `Model.step` has no output stream and `.makeImage` no arguments.  So what the methods raise before they compile is outside
    this statement: OSError of `print_tty` / `print_ascii(tty=True)` on a stream that is not a tty (`C15_refuse_iff`, on the text
    functions), ValueError of `make_image` for an embedded image below level H (`C18_source_make_image_embedded_src`); and after
    the compile AssertionError for a factory that is no `BaseImage` subclass (`C18_source_make_image_rest_bad_factory_src`). -/
theorem C16_implicit_compile (g : Global) (s : QRState) (l : Spec.Level)
    (hg : GInv g) (hv : s.version ≤ 40) (hm : ∀ m, s.mask = some m → m ≤ 7) (hl : s.level = l.indicator)
    (hsegs : ∀ x ∈ s.dataList, x.Valid) (hc : s.dataCache = none) :
    match compile { version := s.version, level := s.level, mask := s.mask, fit := true } s.dataList with
    | .ok (v, _, M) =>
        (step (g, s) .getMatrix).2 = .matrix (framedOpt M.toLists s.border) ∧
        (step (g, s) .printAscii).2 = .text s.border M.toLists ∧
        (step (g, s) .printTty).2 = .text 1 M.toLists ∧
        (if s.boxSize ≤ 0 then step (g, s) .makeImage = ((g, s), .err .valueError)
         else (step (g, s) .makeImage).2 = .image s.border (v * 4 + 17) s.boxSize M.toLists)
    | .error e =>
        e = .dataOverflow ∧
        (step (g, s) .getMatrix).2 = .err .dataOverflow ∧
        (step (g, s) .printAscii).2 = .err .dataOverflow ∧
        (step (g, s) .printTty).2 = .err .dataOverflow ∧
        (if s.boxSize ≤ 0 then step (g, s) .makeImage = ((g, s), .err .valueError)
         else (step (g, s) .makeImage).2 = .err .dataOverflow) := by
  have h : Proofs.Implicit.Pre g s l := ⟨hg, hv, hm, hl, hsegs, hc⟩
  have key := fun op hop hgd => Proofs.Implicit.step_fresh h (op := op) hop hgd
  have hbox : ∀ hb : s.boxSize ≤ 0, step (g, s) .makeImage = ((g, s), .err .valueError) := fun hb => by
    simp only [step, checkBoxSize, hb, if_true]
  have hgd : ¬ s.boxSize ≤ 0 → readGuard .makeImage s = .ok () := fun hb => readGuard_ok fun h => hb h.2
  cases hcmp : compile (cfgOf s true) s.dataList with
  | ok r =>
    obtain ⟨v, m, M⟩ := r
    simp only [hcmp] at key
    refine ⟨(key .getMatrix rfl rfl).1, (key .printAscii rfl rfl).1, (key .printTty rfl rfl).1, ?_⟩
    split
    · exact hbox ‹_›
    · exact (key .makeImage rfl (hgd ‹_›)).1
  | error e =>
    simp only [hcmp] at key
    refine ⟨(key .getMatrix rfl rfl).1, (key .getMatrix rfl rfl).2, (key .printAscii rfl rfl).2,
      (key .printTty rfl rfl).2, ?_⟩
    split
    · exact hbox ‹_›
    · exact (key .makeImage rfl (hgd ‹_›)).2

/-- the state after a successful implicit compile, for each of the four entry points: the object is compiled
    (`data_cache` filled) at the compiled version and holds the compiled modules; level, mask, border, box size and
    data are untouched; the blank cache is still sound -/
theorem C16_implicit_state (g : Global) (s : QRState) (l : Spec.Level)
    (hg : GInv g) (hv : s.version ≤ 40) (hm : ∀ m, s.mask = some m → m ≤ 7) (hl : s.level = l.indicator)
    (hsegs : ∀ x ∈ s.dataList, x.Valid) (hc : s.dataCache = none) (op : Op)
    (hop : op = .getMatrix ∨ (op = .makeImage ∧ 0 < s.boxSize) ∨ op = .printAscii ∨ op = .printTty)
    (v m : Nat) (M : Mat)
    (hcmp : compile { version := s.version, level := s.level, mask := s.mask, fit := true } s.dataList = .ok (v, m, M)) :
    GInv (step (g, s) op).1.1 ∧ SameButVersion s (step (g, s) op).1.2 ∧ (step (g, s) op).1.2.version = v ∧
      (step (g, s) op).1.2.modules = M ∧ (step (g, s) op).1.2.dataCache.isSome = true := by
  -- the guard of `make_image` (a box size below 1) does not fire: `hop` excludes it
  have hguard : ¬ (op = .makeImage ∧ s.boxSize ≤ 0) := by
    rintro ⟨h1, h2⟩
    rcases hop with rfl | ⟨_, hb⟩ | rfl | rfl
    · cases h1
    · omega
    · cases h1
    · cases h1
  have := Proofs.Implicit.step_fresh (op := op) ⟨hg, hv, hm, hl, hsegs, hc⟩ (Op.reads_of (hop.imp id (Or.imp_left And.left)))
    (readGuard_ok hguard)
  rw [hcmp] at this
  exact this.2

/-- non-vacuity of the hypotheses of `C16_implicit_compile`: a freshly constructed object (empty blank cache, version
    `None`, level M = indicator 0, no mask, a byte segment) satisfies them -/
example :
    let g : Global := { blanks := [] }
    let s : QRState := { version := 0, level := Spec.Level.M.indicator, mask := none, border := 4, boxSize := 10,
                         dataList := [⟨4, [104, 105]⟩], dataCache := none, modules := #[#[]], modulesCount := 0 }
    GInv g ∧ s.version ≤ 40 ∧ (∀ m, s.mask = some m → m ≤ 7) ∧ s.level = Spec.Level.M.indicator ∧
      (∀ x ∈ s.dataList, x.Valid) ∧ s.dataCache = none := by
  intro g s
  refine ⟨fun v b h => (by cases h), (by decide), fun m h => (by cases h), rfl, fun x hx => ?_, rfl⟩
  simp only [s, List.mem_singleton] at hx
  subst hx
  exact Or.inr (Or.inr ⟨rfl, by decide⟩)

/-! ### Bridges (plugin `frag_b.py`): `QRCode.get_matrix`.  Those that other proofs use as well are proved in
    QR/Proofs/SourceTieC16.lean. -/
section SourceTieB
open QR.Gen.Code QR.SourceTieB

theorem C16_source_getMatrix_literals :
    get_matrix_compile_call = "self.make()" ∧ get_matrix_early_value = "self.modules" ∧
    (∀ len border, get_matrix_width len border = len + border * 2) :=
  ⟨rfl, rfl, fun _ _ => rfl⟩

/-- the early-return test is `border = 0` -/
theorem C16_source_get_matrix_early_eq (border : Nat) : get_matrix_early border = decide (border = 0) :=
  QR.SourceTieB.get_matrix_early_eq border

/-- `get_matrix()` once compiled, for every matrix (of any shape) and every border -/
theorem C16_source_getMatrix_src (M : Mods) (border : Nat) :
    getMatrix M border = if get_matrix_early border then M else get_matrix_code false M border := by
  unfold getMatrix get_matrix_code
  rw [get_matrix_early_eq]
  by_cases h : border = 0 <;> simp [h]

/-- the same on the object model's cells (`None` possible before compilation, `False` fill = `some false`) -/
theorem C16_source_framedOpt_src (m : List (List (Option Bool))) (border : Nat) :
    framedOpt m border = if get_matrix_early border then m else get_matrix_code (some false) m border :=
  QR.SourceTieB.framedOpt_src m border

/-- `if self.data_cache is None: self.make()` - with `make`'s default `fit` -/
theorem C16_source_ensureMade_src (st : St) :
    ensureMade st = if get_matrix_compile_test st.2.dataCache.isNone then makeS make_fit_default st else (st, .ok ()) := by
  unfold ensureMade get_matrix_compile_test make_fit_default
  cases h : st.2.dataCache <;> simp

end SourceTieB

/-! ### Capstones: the translated source itself satisfies the Spec statement, for all inputs; no `QR.Model` function occurs in a
    conclusion. Covered: `qrcode/main.py:QRCode.get_matrix` after its `if self.data_cache is None: self.make()`
    (that implicit compile is NOT part of these capstones - `make` is a callee treated by `C16_implicit_compile`):
    the early return `if not self.border: return self.modules` (`get_matrix_early`) and the framing code
    (`get_matrix_code`, with Python's `False` instantiated by `false`). -/
section Capstone
open QR.Gen.Code

/-- **capstone, `qrcode/main.py:QRCode.get_matrix`** (body after the implicit compile): for every `n × n` module matrix and
    every border the translated code returns exactly `Spec.frame M n border`, the symbol framed by `border` light modules
    on each side. From `C16_source_getMatrix_src` and `C16_frame`. -/
theorem C16_source_capstone_frame (M : List (List Bool)) (n border : Nat)
    (hlen : M.length = n) (hrow : ∀ row ∈ M, row.length = n) :
    (if get_matrix_early border then M else get_matrix_code false M border) = Spec.frame M n border := by
  rw [← C16_source_getMatrix_src M border]
  exact C16_frame M n border hlen hrow

/-- **capstone, `qrcode/main.py:QRCode.get_matrix`**, pointwise: position `(r, c)` of the translated code's result is dark iff
    `Spec.framed M n border r c` (it lies in the `n × n` window at `(border, border)` and the module there is dark), for
    ALL `r c` (outside the result both sides are light). From `C16_source_getMatrix_src` and `C16_pointwise`. -/
theorem C16_source_capstone_pointwise (M : List (List Bool)) (n border : Nat)
    (hlen : M.length = n) (hrow : ∀ row ∈ M, row.length = n) (r c : Nat) :
    (((if get_matrix_early border then M else get_matrix_code false M border)).getD r []).getD c false
      = Spec.framed M n border r c := by
  rw [← C16_source_getMatrix_src M border]
  exact C16_pointwise M n border hlen hrow r c

/-- **capstone, `qrcode/main.py:QRCode.get_matrix`**, shape: the translated code's result is square of side `n + 2*border`.
    From `C16_source_getMatrix_src` and `C16_shape`. -/
theorem C16_source_capstone_shape (M : List (List Bool)) (n border : Nat)
    (hlen : M.length = n) (hrow : ∀ row ∈ M, row.length = n) :
    (if get_matrix_early border then M else get_matrix_code false M border).length = n + 2 * border ∧
      ∀ row ∈ (if get_matrix_early border then M else get_matrix_code false M border), row.length = n + 2 * border := by
  rw [← C16_source_getMatrix_src M border]
  exact C16_shape M n border hlen hrow

/-- **capstone, `qrcode/main.py:QRCode.get_matrix`**, border 0: the translated code returns `self.modules` itself, for a matrix of
    any shape. From `C16_source_getMatrix_src` and `C16_zero`. -/
theorem C16_source_capstone_zero (M : Mods) :
    (if get_matrix_early 0 then M else get_matrix_code false M 0) = M := by
  rw [← C16_source_getMatrix_src M 0]
  exact C16_zero M

/-- the capstone at a concrete 2 x 2 symbol with border 1, and the translated code evaluated directly -/
example : (if get_matrix_early 1 then [[true, false], [true, true]] else get_matrix_code false [[true, false], [true, true]] 1)
    = Spec.frame [[true, false], [true, true]] 2 1 :=
  C16_source_capstone_frame _ 2 1 rfl (by decide)
example : (if get_matrix_early 1 then [[true, false], [true, true]] else get_matrix_code false [[true, false], [true, true]] 1)
    = [[false, false, false, false], [false, true, false, false], [false, true, true, false],
       [false, false, false, false]] := by decide

end Capstone

/-- the Python functions this property's model mirrors have, in /repo's current working tree, exactly the normalised
    ASTs the model was written and validated against (fingerprints regenerated by T1 on every run) -/
theorem C16_source_fingerprints : QR.Gen.fp_C16 = QR.Pinned.fp_C16 := by decide

end QR.Props
