import QR.Gen.Tables
import QR.Model.Basic
import QR.Model.Cli
import QR.Model.Compile
import QR.Model.Data
import QR.Model.GF
import QR.Model.Matrix
import QR.Model.Penalty
import QR.Model.QRObject
import QR.Model.Release
import QR.Model.Render
import QR.Model.Segment
import QR.Model.Styled
import QR.Model.Svg
import QR.Model.Threads
import QR.Spec.GF
import QR.Spec.Geometry
import QR.Spec.MaskChoice
import QR.Spec.Penalty
import QR.Spec.Reader
import QR.Spec.Release
import QR.Spec.Render
import QR.Spec.Segmentation
import QR.Spec.Stream
import QR.Spec.Svg
import QR.Spec.Tables
import QR.Proofs.Blank
import QR.Proofs.Blocks
import QR.Proofs.C02Tables
import QR.Proofs.C04Tables
import QR.Proofs.C06Tables
import QR.Proofs.C07Tables
import QR.Proofs.CachedCompile
import QR.Proofs.CapstoneC05
import QR.Proofs.CapstoneCompile
import QR.Proofs.CapstoneObject
import QR.Proofs.Compile
import QR.Proofs.Conv
import QR.Proofs.DarkCells
import QR.Proofs.Distance
import QR.Proofs.Except
import QR.Proofs.Finite
import QR.Proofs.Fit
import QR.Proofs.Frame
import QR.Proofs.GF256
import QR.Proofs.GeomDefs
import QR.Proofs.GeomLemmas
import QR.Proofs.History
import QR.Proofs.Implicit
import QR.Proofs.Interleave
import QR.Proofs.Lists
import QR.Proofs.Loops
import QR.Proofs.MaskChoice
import QR.Proofs.MatLemmas
import QR.Proofs.NFCount
import QR.Proofs.Penalty
import QR.Proofs.Pinned
import QR.Proofs.Placement
import QR.Proofs.PlacementSpec
import QR.Proofs.RSDiv
import QR.Proofs.Raster
import QR.Proofs.ReadBack
import QR.Proofs.Release
import QR.Proofs.SegMark
import QR.Proofs.SegShape
import QR.Proofs.Segmentation
import QR.Proofs.SourceTieC02
import QR.Proofs.SourceTieC04
import QR.Proofs.SourceTieC05
import QR.Proofs.SourceTieC05MapData
import QR.Proofs.SourceTieC05Patterns
import QR.Proofs.SourceTieC06
import QR.Proofs.SourceTieC06Write
import QR.Proofs.SourceTieC07
import QR.Proofs.SourceTieC08
import QR.Proofs.SourceTieC08Rule3
import QR.Proofs.SourceTieC09
import QR.Proofs.SourceTieC10
import QR.Proofs.SourceTieC12
import QR.Proofs.SourceTieC13
import QR.Proofs.SourceTieC14Drawers
import QR.Proofs.SourceTieC14Masks
import QR.Proofs.SourceTieC14Styled
import QR.Proofs.SourceTieC15
import QR.Proofs.SourceTieC16
import QR.Proofs.SourceTieC17
import QR.Proofs.SourceTieC20
import QR.Proofs.SourceTieImage
import QR.Proofs.SourceTieIndex
import QR.Proofs.SourceTieMake
import QR.Proofs.SourceTieMakeImage
import QR.Proofs.SourceTieObject
import QR.Proofs.Stream
import QR.Proofs.StreamBits
import QR.Proofs.StreamModes
import QR.Proofs.StreamSegs
import QR.Proofs.Styled
import QR.Proofs.Svg
import QR.Proofs.Symbol
import QR.Proofs.Text
import QR.Proofs.Total
import QR.Proofs.Traversal
import QR.Proofs.TypeInfo
import QR.Proofs.Units
import QR.Props.C01
import QR.Props.C02
import QR.Props.C03
import QR.Props.C04
import QR.Props.C05
import QR.Props.C06
import QR.Props.C07
import QR.Props.C08
import QR.Props.C09
import QR.Props.C10
import QR.Props.C11
import QR.Props.C12
import QR.Props.C13
import QR.Props.C14
import QR.Props.C15
import QR.Props.C16
import QR.Props.C17
import QR.Props.C18
import QR.Props.C19
import QR.Props.C20
